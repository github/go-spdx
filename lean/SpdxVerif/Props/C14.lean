/-
C14 — cost: the number of alternatives the expansion materialises, and why it cannot be polynomial in the text length.
-/
import SpdxVerif.Lemmas.Expand
import SpdxVerif.Model.Cost
namespace Spdx.C14

/-- **the expansion has exactly `alts n` alternatives**: the product over AND, the sum over OR -/
theorem expandTerm_length (n : Node) : (expandTerm n).length = alts n := by
  induction n with
  | lic | ref => rfl
  | or l r ihl ihr => simp [expandTerm, alts, ihl, ihr]
  | and l r ihl ihr => rw [expandTerm_and, length_appendTerms, ihl, ihr, alts]

/-- `expand` (with its sorting) returns the same number of alternatives -/
theorem expand_length (n : Node) : (expand n).length = alts n := by
  rw [expand_eq, deepSort, (sortBy_perm _ _).length_eq, List.length_map, expandTerm_length]

/-- the family of the known finding: an AND of `k+1` two-way ORs -/
def andOfOrs (x y : Node) : Nat → Node
  | 0 => .or x y
  | k+1 => .and (.or x y) (andOfOrs x y k)

theorem alts_leaf : ∀ {x : Node}, x.isLeaf = true → alts x = 1
  | .lic .., _ | .ref .., _ => rfl
theorem leafCount_leaf : ∀ {x : Node}, x.isLeaf = true → leafCount x = 1
  | .lic .., _ | .ref .., _ => rfl

/-- **the finding, as a theorem**: `k+1` groups give `2^(k+1)` alternatives although the text grows linearly in `k` -/
theorem alts_andOfOrs (x y : Node) (hx : x.isLeaf = true) (hy : y.isLeaf = true) (k : Nat) :
    alts (andOfOrs x y k) = 2 ^ (k + 1) := by
  induction k with
  | zero => rw [andOfOrs, alts, alts_leaf hx, alts_leaf hy]
  | succ k ih => rw [andOfOrs, alts, ih, alts, alts_leaf hx, alts_leaf hy, Nat.pow_succ 2 (k + 1), Nat.mul_comm]

theorem leafCount_andOfOrs (x y : Node) (hx : x.isLeaf = true) (hy : y.isLeaf = true) (k : Nat) :
    leafCount (andOfOrs x y k) = 2 * (k + 1) := by
  induction k with
  | zero => rw [andOfOrs, leafCount, leafCount_leaf hx, leafCount_leaf hy]
  | succ k ih =>
    rw [andOfOrs, leafCount, ih, leafCount, leafCount_leaf hx, leafCount_leaf hy, Nat.mul_succ 2 (k + 1), Nat.add_comm]

/-- hence `Satisfies` and `ExtractLicenses` materialise `2^(k+1)` alternatives for that family -/
theorem expand_andOfOrs_length (x y : Node) (hx : x.isLeaf = true) (hy : y.isLeaf = true) (k : Nat) :
    (expand (andOfOrs x y k)).length = 2 ^ (k + 1) := by
  rw [expand_length, alts_andOfOrs x y hx hy]

theorem leafCount_pos : ∀ n : Node, 0 < leafCount n
  | .lic .. | .ref .. => Nat.one_pos
  | .and l _ | .or l _ => Nat.add_pos_left (leafCount_pos l) _

/-- the number of alternatives is at most exponential in the number of terms (and `alts_andOfOrs` shows the bound is
    attained up to the square root) -/
theorem alts_le_pow (n : Node) : alts n ≤ 2 ^ leafCount n := by
  have two_le (m : Node) : 2 ≤ 2 ^ leafCount m := Nat.pow_le_pow_right (n := 2) (by decide) (leafCount_pos m)
  induction n with
  | lic | ref => exact Nat.one_le_two_pow
  | and l r ihl ihr => rw [alts, leafCount, Nat.pow_add]; exact Nat.mul_le_mul ihl ihr
  | or l r ihl ihr =>
    rw [alts, leafCount, Nat.pow_add]
    exact Nat.le_trans (Nat.add_le_add ihl ihr) (Nat.add_le_mul (two_le l) (two_le r))

example : alts (andOfOrs (.lic [77,73,84] false none) (.lic [73,83,67] false none) 17) = 262144 :=
  alts_andOfOrs _ _ rfl rfl 17

end Spdx.C14
