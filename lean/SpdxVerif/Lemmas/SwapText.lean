/-
Lemmas/SwapText — texts whose token sequences are related position by position (equal tokens, or licence tokens that
matching cannot tell apart) have related trees, and validity and `Satisfies` give them the same results, in the
expression and in the allowed list (`ExtractLicenses` does not: `X` and `X-only` render differently).
-/
import SpdxVerif.Lemmas.TokenSwap
import SpdxVerif.Lemmas.Outcome
namespace Spdx

theorem NodeRel.symm {n n' : Node} (h : NodeRel n n') : NodeRel n' n := by
  induction h with
  | lic a b p e hab => exact .lic b a p e hab.symm
  | ref d r => exact .ref d r
  | and _ _ ihl ihr => exact .and ihl ihr
  | or _ _ ihl ihr => exact .or ihl ihr

theorem NodeRel.refl : ∀ n : Node, NodeRel n n
  | .lic a p e => .lic a a p e (Or.inl rfl)
  | .ref d r => .ref d r
  | .and l r => .and (NodeRel.refl l) (NodeRel.refl r)
  | .or l r => .or (NodeRel.refl l) (NodeRel.refl r)

theorem NodeRel.isLeaf {n n' : Node} (h : NodeRel n n') : n.isLeaf = n'.isLeaf := by cases h <;> rfl

theorem parseTokens_rel {ts ts' : List Tok} (h : TR ts ts') : Option.Rel NodeRel (parseTokens ts) (parseTokens ts') := by
  cases h1 : parseTokens ts with
  | some n =>
    obtain ⟨n', hd, hr⟩ := D_swap ((parseTokens_iff _ _).mp h1) _ h
    rw [(parseTokens_iff _ _).mpr hd]; exact .some hr
  | none =>
    -- a tree of `ts'` would give one of `ts`, by `D_swap` from right to left
    cases h2 : parseTokens ts' with
    | none => exact .none
    | some n' =>
      obtain ⟨n, hd, _⟩ := D_swap ((parseTokens_iff _ _).mp h2) _ h.symm
      rw [(parseTokens_iff _ _).mpr hd] at h1; cases h1

theorem rel_bind {α β γ δ} {r : α → β → Prop} {s : γ → δ → Prop} {f : α → Option γ} {g : β → Option δ}
    {o : Option α} {o' : Option β} (h : Option.Rel r o o') (hf : ∀ a b, r a b → Option.Rel s (f a) (g b)) :
    Option.Rel s (o.bind f) (o'.bind g) := by
  cases h with
  | none => exact .none
  | some h => exact hf _ _ h

theorem tree_rel_of_toks {U V : Bytes} (h : Option.Rel TR (toks U) (toks V)) : Option.Rel NodeRel (tree U) (tree V) := by
  rw [tree_eq_toks, tree_eq_toks]
  exact rel_bind h (fun _ _ => parseTokens_rel)

theorem toksRel_ctx (a : Bytes) (sep : Nat) (u v : Bytes) (hsep : sep = 32 ∨ sep = 40 ∨ sep = 41)
    (hu : u.head? ≠ some 43) (hv : v.head? ≠ some 43) (h : Option.Rel TR (toks u) (toks v)) :
    Option.Rel TR (toks (a ++ sep :: u)) (toks (a ++ sep :: v)) := by
  rw [toks_after_sep a sep u hsep hu, toks_after_sep a sep v hsep hv]
  cases toks a with
  | none => exact .none
  | some A =>
    simp only [Option.bind_some, Option.map_eq_bind]
    exact rel_bind h (fun _ _ h => .some ((TR.refl A).append ((TR.refl _).append h)))

theorem matchLeaf_nodeRel {t t' a a' : Node} (ht : NodeRel t t') (ha : NodeRel a a')
    (h1 : LeafOK t) (h2 : LeafOK t') (h3 : LeafOK a) (h4 : LeafOK a') (lt : t.isLeaf = true) (la : a.isLeaf = true) :
    matchLeaf t a = matchLeaf t' a' := by
  have step : ∀ {x x' y : Node}, NodeRel x x' → LeafOK x → LeafOK x' → LeafOK y → x.isLeaf = true → y.isLeaf = true →
      matchLeaf x y = matchLeaf x' y := by
    intro x x' y hx k1 k2 k3 lx ly
    cases hx with
    | lic a b p e hab => exact matchLeaf_idEquiv a b p e y hab k1 k2 k3 ly
    | ref => rfl
    | and | or => cases lx
  rw [step ht h1 h2 h3 lt la, matchLeaf_symm t' a, matchLeaf_symm t' a']
  exact step ha h3 h4 h2 la (ht.isLeaf ▸ lt)

theorem eval_rel {p q : Node → Bool} {n n' : Node} (h : NodeRel n n')
    (hpq : ∀ t t', NodeRel t t' → t ∈ leaves n → t' ∈ leaves n' → t.isLeaf = true → p t = q t') : eval p n = eval q n' := by
  induction h with
  | lic a b p' e hab => exact hpq _ _ (.lic a b p' e hab) (List.mem_singleton.mpr rfl) (List.mem_singleton.mpr rfl) rfl
  | ref d r => exact hpq _ _ (.ref d r) (List.mem_singleton.mpr rfl) (List.mem_singleton.mpr rfl) rfl
  | and _ _ ihl ihr | or _ _ ihl ihr =>
    rw [eval, eval, ihl fun t t' h a b => hpq t t' h (List.mem_append_left _ a) (List.mem_append_left _ b),
      ihr fun t t' h a b => hpq t t' h (List.mem_append_right _ a) (List.mem_append_right _ b)]

theorem any_congr_mem {α} {p q : α → Bool} : ∀ (l : List α), (∀ a ∈ l, p a = q a) → l.any p = l.any q
  | [], _ => rfl
  | a :: l, h => by rw [List.any_cons, List.any_cons, h a (by simp), any_congr_mem l (fun b hb => h b (by simp [hb]))]

theorem covered_rel {t t' : Node} (ht : NodeRel t t') (P Q : List Node) {l l' : Node} (hl : NodeRel l l')
    (k1 : LeafOK t) (k2 : LeafOK t') (lt : t.isLeaf = true)
    (hA : ∀ y ∈ P ++ l :: Q, LeafOK y ∧ y.isLeaf = true) (hl' : LeafOK l') :
    covered (P ++ l :: Q) t = covered (P ++ l' :: Q) t' := by
  have m : ∀ y ∈ P ++ l :: Q, matchLeaf t y = matchLeaf t' y := fun y hy =>
    matchLeaf_nodeRel ht (NodeRel.refl y) k1 k2 (hA y hy).1 (hA y hy).1 lt (hA y hy).2
  have ml := matchLeaf_nodeRel ht hl k1 k2 (hA l (by simp)).1 hl' lt (hA l (by simp)).2
  simp only [covered, coveredBy, List.any_append, List.any_cons, ml]
  rw [any_congr_mem P (fun y hy => m y (by simp [hy])), any_congr_mem Q (fun y hy => m y (by simp [hy]))]

theorem rel_self (o : Option Node) : Option.Rel NodeRel o o := by
  cases o with
  | none => exact .none
  | some n => exact .some (NodeRel.refl n)

theorem toNodes_cons_tree (x : Bytes) (L : List Bytes) : toNodes (x :: L) = match tree x with
    | none => .error .badEntry
    | some n => if n.isLeaf then (toNodes L).map (n :: ·) else .error .compoundEntry := by
  unfold tree; rw [toNodes]; cases parse x <;> rfl

theorem toNodes_rel (pre post : List Bytes) {x x' : Bytes} (hx : Option.Rel NodeRel (tree x) (tree x')) :
    (∃ err, toNodes (pre ++ x :: post) = .error err ∧ toNodes (pre ++ x' :: post) = .error err) ∨
    (∃ P Q l l', toNodes (pre ++ x :: post) = .ok (P ++ l :: Q) ∧ toNodes (pre ++ x' :: post) = .ok (P ++ l' :: Q) ∧
      NodeRel l l') := by
  rw [toNodes_append, toNodes_append, toNodes_cons_tree, toNodes_cons_tree]
  cases toNodes pre with
  | error err => exact Or.inl ⟨err, rfl, rfl⟩
  | ok P =>
    generalize tree x = o at hx; generalize tree x' = o' at hx
    cases hx with
    | none => exact Or.inl ⟨.badEntry, rfl, rfl⟩
    | @some n n' h =>
      dsimp only
      rw [← h.isLeaf]
      cases n.isLeaf with
      | false => exact Or.inl ⟨.compoundEntry, rfl, rfl⟩
      | true =>
        cases toNodes post with
        | error err => exact Or.inl ⟨err, rfl, rfl⟩
        | ok Q => exact Or.inr ⟨P, Q, n, n', rfl, rfl, h⟩

theorem satisfies_rel (e e' : Bytes) (pre post : List Bytes) (x x' : Bytes)
    (he : Option.Rel NodeRel (tree e) (tree e')) (hx : Option.Rel NodeRel (tree x) (tree x')) :
    satisfies e (pre ++ x :: post) = satisfies e' (pre ++ x' :: post) := by
  generalize h1 : tree e = o1 at he; generalize h2 : tree e' = o2 at he
  cases he with
  | none =>
    obtain ⟨_, h1⟩ := tree_eq_none.mp h1; obtain ⟨_, h2⟩ := tree_eq_none.mp h2
    simp [satisfies, h1, h2]
  | @some n n' h =>
    have p1 := tree_eq_some.mp h1; have p2 := tree_eq_some.mp h2
    rcases toNodes_rel pre post hx with ⟨err, e1, e2⟩ | ⟨P, Q, l, l', e1, e2, hl⟩
    · simp [satisfies, p1, p2, e1, e2]
    · rw [C07.satisfies_eq e _ n _ p1 (by simp) e1, C07.satisfies_eq e' _ n' _ p2 (by simp) e2]
      exact congrArg Except.ok (eval_rel h (fun t t' htt' ht ht' lt =>
        covered_rel htt' P Q hl (parse_leavesOK e n p1 t ht) (parse_leavesOK e' n' p2 t' ht') lt (toNodes_leafOK e1)
          (toNodes_leafOK e2 l' (by simp)).1))

theorem results_of_rel {U V : Bytes} (h : Option.Rel NodeRel (tree U) (tree V)) :
    valid U = valid V ∧ ∀ L, satisfies U L = satisfies V L := by
  have hv : valid U = valid V := by
    rw [valid_eq_tree, valid_eq_tree]
    generalize tree U = o1 at h; generalize tree V = o2 at h
    cases h <;> rfl
  refine ⟨hv, fun L => ?_⟩
  cases L with
  | nil => rw [C07.satisfies_nil, C07.satisfies_nil, hv]
  | cons x post => exact satisfies_rel U V [] post x x h (rel_self _)

theorem toks_only (x b : Bytes) (hx : allId x = true) (hc : Clean x) (hc' : Clean (x ++ sufOnly)) (hb : Stops b)
    (hb43 : b.head? ≠ some 43)
    (h1 : (normCore x false).isSome = true) (h2 : (normCore (x ++ sufOnly) false).isSome = true) :
    Option.Rel TR (toks (x ++ b)) (toks (x ++ sufOnly ++ b)) := by
  obtain ⟨⟨t1, k1⟩, e1⟩ := Option.isSome_iff_exists.mp h1
  obtain ⟨⟨t2, k2⟩, e2⟩ := Option.isSome_iff_exists.mp h2
  obtain ⟨rfl, rfl, ta, tb, rfl, rfl, hrel⟩ := normCore_only x t1 t2 k1 k2 e1 e2
  have htr : TokRel ta tb := by
    rcases hrel with rfl | ⟨p, q, rfl, rfl, hpq⟩
    · exact .refl _
    · exact .swap p q hpq
  rw [toks_word_noPlus x b [ta] hx hc hb hb43 e1,
    toks_word_noPlus (x ++ sufOnly) b [tb] (by rw [allId_append, hx]; decide) hc' hb hb43 e2]
  cases toks b with
  | none => exact .none
  | some B => exact .some (.cons htr (TR.refl B))

end Spdx
