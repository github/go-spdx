/-
Lemmas/Out — the result type of layer G: a value or `panic`.  "Returns normally" is `Out.IsOk`; a refinement equation
`x = .ok v` gives it, hence `x ≠ .panic`.
-/
import SpdxVerif.Model.GoShaped
namespace Spdx.G

theorem bind_ok {α β} (a : α) (f : α → Out β) : (Out.ok a).bind f = f a := rfl

def Out.IsOk {α} (x : Out α) : Prop := ∃ a, x = .ok a

theorem Out.IsOk.ne_panic {α} {x : Out α} (h : x.IsOk) : x ≠ .panic := by
  obtain ⟨a, rfl⟩ := h
  exact nofun

theorem isOk_ok {α} (a : α) : (Out.ok a).IsOk := ⟨a, rfl⟩

theorem isOk_bind {α β} {x : Out α} {f : α → Out β} (hx : x.IsOk) (hf : ∀ a, (f a).IsOk) : (x.bind f).IsOk := by
  obtain ⟨a, rfl⟩ := hx
  exact hf a

theorem isOk_ite {α} {c : Prop} [Decidable c] {x y : Out α} (hx : x.IsOk) (hy : y.IsOk) : (if c then x else y).IsOk := by
  split <;> assumption

end Spdx.G
