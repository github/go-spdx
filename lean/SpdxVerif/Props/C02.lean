/-
C02 — single-term matching follows the documented version / + / exception / ref rules.
-/
import SpdxVerif.Lemmas.Match
import SpdxVerif.Lemmas.Grammar
import SpdxVerif.Lemmas.Cascade
namespace Spdx.C02

/-- the relation is symmetric -/
theorem matchLeaf_symm (x y : Node) : matchLeaf x y = matchLeaf y x := Spdx.matchLeaf_symm x y

/-- every single term matches itself -/
theorem matchLeaf_refl (x : Node) (h : x.isLeaf = true) : matchLeaf x x = true := Spdx.matchLeaf_refl x h

/-- a license never matches a LicenseRef (in either order) -/
theorem lic_never_matches_ref (a : Bytes) (p : Bool) (e : Option Bytes) (d : Option Bytes) (r : Bytes) :
    matchLeaf (.lic a p e) (.ref d r) = false ∧ matchLeaf (.ref d r) (.lic a p e) = false := by
  simp [matchLeaf]

/-- LicenseRefs match iff the LicenseRef ids are identical and the DocumentRefs are identical or both absent -/
theorem ref_match_iff (d₁ d₂ : Option Bytes) (r₁ r₂ : Bytes) :
    matchLeaf (.ref d₁ r₁) (.ref d₂ r₂) = true ↔ r₁ = r₂ ∧ d₁ = d₂ := by
  simp [matchLeaf]

/-- licenses with different WITH exceptions (or an exception on one side only) never match -/
theorem exception_gate (a b : Bytes) (pa pb : Bool) (ea eb : Option Bytes) (h : ea ≠ eb) :
    matchLeaf (.lic a pa ea) (.lic b pb eb) = false := by
  simp [matchLeaf_lic, h]

/-- the same id always matches (given equal exceptions), whatever the `+` flags -/
theorem same_id_matches (a : Bytes) (pa pb : Bool) (e : Option Bytes) :
    matchLeaf (.lic a pa e) (.lic a pb e) = true := by
  simp [matchLeaf_lic]

/-- The four version cases, for ids at known table positions `(family, version group)`; equal exceptions, different
spellings.  This is the rule of the property text, `pos` being the first position in the shipped range table. -/
theorem version_rule (a b : Bytes) (pa pb : Bool) (e : Option Bytes) (i j k l : Nat)
    (ha : pos a = some (i, j)) (hb : pos b = some (k, l)) (hne : a ≠ b)
    (hfold : foldEq (render (.lic a pa e)) (render (.lic b pb e)) = false) :
    matchLeaf (.lic a pa e) (.lic b pb e) =
      (i == k && (match pa, pb with
        | false, false => j == l
        | true, false => decide (j ≤ l)
        | false, true => decide (l ≤ j)
        | true, true => true)) :=
  (matchLeaf_of_ne a b pa pb e hne hfold).trans (by rw [versionRule, ha, hb]; cases pa <;> cases pb <;> rfl)

/-- ids outside the range table match only themselves -/
theorem unranged_matches_only_itself (a b : Bytes) (pa pb : Bool) (e : Option Bytes)
    (ha : pos a = none) (hne : a ≠ b)
    (hfold : foldEq (render (.lic a pa e)) (render (.lic b pb e)) = false) :
    matchLeaf (.lic a pa e) (.lic b pb e) = false :=
  (matchLeaf_of_ne a b pa pb e hne hfold).trans (by rw [versionRule, ha])

/-- `-or-later` counts as `+`: a licence token whose id ends in `-or-later` is parsed with the plus flag set,
    and the range lookup ignores the suffix -/
theorem orLater_counts_as_plus (id : Bytes) (rest : List Tok) (n : Node) (r : List Tok)
    (hs : sufOrLater.isSuffixOf id = true) (h : parseLicense (.lic id :: rest) = .ok n r) :
    ∃ e, n = .lic id true e := by
  obtain ⟨pre, hpre, hd⟩ := parseLicense_sound h
  -- the phrase begins with the token `.lic id`: a licence phrase, whose flag is the suffix test where no `+` follows
  cases hd with
  | ref0 | ref1 | paren => cases hpre
  | lic | licW => cases hpre; exact ⟨_, by rw [hs]⟩
  | licP | licPW => cases hpre; exact ⟨_, rfl⟩

theorem pos_ignores_orLater (id : Bytes) : pos (id ++ sufOrLater) = pos id ∨ sufOrLater.isSuffixOf id = true := by
  by_cases h : sufOrLater.isSuffixOf id = true
  · exact Or.inr h
  · left
    rw [pos, pos, simplify, simplify, stripSuffix_append, stripSuffix?, if_neg h]; rfl

/-! ### non-vacuity on the shipped table -/
section
private def gpl2 : Bytes := [71,80,76,45,50,46,48]          -- GPL-2.0
private def gpl3 : Bytes := [71,80,76,45,51,46,48]          -- GPL-3.0
private def gpl1 : Bytes := [71,80,76,45,49,46,48]          -- GPL-1.0
private def mit : Bytes := [77,73,84]
example : matchLeaf (.lic gpl3 false none) (.lic gpl2 true none) = true := by decide +kernel
example : matchLeaf (.lic gpl1 false none) (.lic gpl2 true none) = false := by decide +kernel
example : matchLeaf (.lic gpl3 false none) (.lic gpl2 false none) = false := by decide +kernel
example : matchLeaf (.lic gpl1 true none) (.lic gpl3 true none) = true := by decide +kernel
example : matchLeaf (.lic mit false none) (.lic gpl2 true none) = false := by decide +kernel
example : matchLeaf (.lic gpl3 false (some mit)) (.lic gpl2 true none) = false := by decide +kernel
end

end Spdx.C02
