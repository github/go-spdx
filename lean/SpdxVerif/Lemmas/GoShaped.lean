/-
Lemmas/GoShaped — the Go-shaped parser (token cursor, `peek`/`next`, nil-able token pointers, error flag) simulates the
list parser of the main model: `G.parseTokens ts = .ok (parseTokens ts)`, so `panic` is unreachable.

The two cannot be compared fuel for fuel: the Go code spends a fourth level per parenthesis
(`parseParenthesizedExpression`), so with equal fuel it may give up where the list parser goes on.  With fuel enough for
the tokens that are left on BOTH sides neither runs out, and each parse function returns what the list parser returns on
the rest of the tokens, errors included (`sim_all`).  Level by level as in Lemmas/Grammar: `chainG` against `chainL`,
`firstG` against `PR.orElse`.
-/
import SpdxVerif.Lemmas.Out
import SpdxVerif.Lemmas.Grammar
namespace Spdx.G

def restT (t : TS) : List Tok := t.toks.drop t.idx
def adv (t : TS) (k : Nat) : TS := ⟨t.toks, t.idx + k, t.err⟩

@[simp] theorem restT_adv (t : TS) (k : Nat) : restT (adv t k) = (restT t).drop k := by
  simp [restT, adv, List.drop_drop, Nat.add_comm]
@[simp] theorem adv_adv (t : TS) (a b : Nat) : adv (adv t a) b = adv t (a + b) := by
  simp [adv, Nat.add_assoc]
@[simp] theorem adv_err (t : TS) (k : Nat) : (adv t k).err = t.err := rfl
@[simp] theorem adv_toks (t : TS) (k : Nat) : (adv t k).toks = t.toks := rfl
@[simp] theorem setErr_err (t : TS) : (setErr t).err = true := rfl
@[simp] theorem restT_setErr (t : TS) : restT (setErr t) = restT t := rfl
theorem adv_zero (t : TS) : adv t 0 = t := by cases t; rfl

theorem restT_adv_one {t : TS} {a : Tok} {r : List Tok} (h : restT t = a :: r) : restT (adv t 1) = r := by
  rw [restT_adv, h]; rfl

theorem hasMore_eq (t : TS) : hasMore t = !(restT t).isEmpty := by
  rw [Bool.eq_iff_iff]
  simp [hasMore, restT, List.drop_eq_nil_iff]

theorem peek_eq (t : TS) : peek t = .ok (restT t).head? := by
  unfold peek index
  rw [hasMore_eq, ← List.head?_drop]
  unfold restT
  cases t.toks.drop t.idx <;> rfl

theorem next_eq (t : TS) : next t = if (restT t).isEmpty then setErr t else adv t 1 := by
  unfold next
  rw [hasMore_eq]
  cases (restT t).isEmpty <;> rfl

theorem parseOperator_eq (o : Op) (t : TS) :
    parseOperator o t = .ok (if (restT t).head? = some (.op o) then (true, adv t 1) else (false, t)) := by
  unfold parseOperator
  rw [peek_eq, next_eq]
  cases hd : restT t with
  | nil => simp [Out.bind]
  | cons a r =>
    simp only [Out.bind, List.head?_cons, Option.isSome_some, ↓reduceIte, deref, List.isEmpty_cons, Bool.false_eq_true,
      Option.some.injEq]
    split <;> rfl

theorem parseWith_eq (t : TS) :
    parseWith t = .ok (match restT t with
      | .op .with_ :: .exc e :: _ => (some e, adv t 1)
      | .op .with_ :: _ => (none, setErr (adv t 1))
      | _ => (none, t)) := by
  unfold parseWith
  simp only [parseOperator_eq, Out.bind]
  cases hL : restT t with
  | nil => simp
  | cons a r =>
    cases a with
    | op o =>
      cases o <;> simp only [List.head?_cons, Option.some.injEq, Tok.op.injEq, reduceCtorEq, ↓reduceIte, Bool.not_false,
        Bool.not_true, Bool.false_eq_true]
      -- the WITH case is left
      simp only [peek_eq, restT_adv, hL, List.drop_succ_cons, List.drop_zero]
      cases r with
      | nil => simp
      | cons b r' => cases b <;> simp [deref]
    | _ => simp

/-- what a Go-shaped parse function may return where the list parser returns `pr`: the same node with the cursor before
    the same rest, or nil with the error flag set, wherever the cursor then stands -/
def Rel : PR Node → Out (Option Node × TS) → Prop
  | .ok n r, out => ∃ t', out = .ok (some n, t') ∧ t'.err = false ∧ restT t' = r
  | _, out => ∃ t', out = .ok (none, t') ∧ t'.err = true

/-- … and for a reader called at `t` that can also decline (nil, cursor and flag untouched) -/
def Sim (t : TS) : PR Node → Out (Option Node × TS) → Prop
  | .none, out => out = .ok (none, t)
  | pr, out => Rel pr out

/-- `parseAtom` tries its readers in turn: a reader that sets the error flag or returns a node decides, after one that
    declines `k` goes on -/
def firstG (out : Out (Option Node × TS)) (k : TS → Out (Option Node × TS)) : Out (Option Node × TS) :=
  out.bind fun (r, t) => if t.err then .ok (none, t) else if r.isSome then .ok (r, t) else k t

theorem Rel.first {pr : PR Node} {out k} (h : Rel pr out) : Rel pr (firstG out k) := by
  cases pr with
  | ok n r =>
    obtain ⟨t1, rfl, he, hr⟩ := h
    exact ⟨t1, by simp only [firstG, bind_ok, he, Bool.false_eq_true, ↓reduceIte, Option.isSome_some], he, hr⟩
  | _ =>
    obtain ⟨t1, rfl, he⟩ := h
    exact ⟨t1, by simp only [firstG, bind_ok, he, ↓reduceIte], he⟩

theorem Sim.first {t : TS} {pr alt : PR Node} {out k} (h : Sim t pr out) (herr : t.err = false) (hk : Rel alt (k t)) :
    Rel (pr.orElse alt) (firstG out k) := by
  cases pr with
  | none =>
    cases h
    show Rel alt _
    simpa only [firstG, bind_ok, herr, Bool.false_eq_true, ↓reduceIte, Option.isSome_none] using hk
  | ok n r => exact Rel.first (pr := .ok n r) h
  | err => exact Rel.first (pr := .err) h

theorem parseLicense_sim (t : TS) (herr : t.err = false) : Sim t (Spdx.parseLicense (restT t)) (parseLicense t) := by
  unfold parseLicense
  simp only [peek_eq, next_eq, hasMore_eq, parseOperator_eq, parseWith_eq, Out.bind]
  -- the case tree is the token patterns `Spdx.parseLicense` matches on: `id`, `id +`, `id WITH x`, `id + WITH x`, each of
  -- the last two also with `x` missing; on every pattern both parsers compute
  cases hL : restT t with
  | nil => simp [Spdx.parseLicense, Sim]
  | cons a r =>
    cases a with
    | lic id =>
      simp only [List.head?_cons, Option.isNone_some, Bool.false_eq_true, ↓reduceIte, deref, List.isEmpty_cons,
        restT_adv, hL, List.drop_succ_cons, List.drop_zero]
      cases r with
      | nil => simp [Spdx.parseLicense, Sim, Rel, herr, hL]
      | cons b r1 =>
        cases b with
        | op o =>
          cases o with
          | plus =>
            simp only [List.isEmpty_cons, Bool.not_false, ↓reduceIte, List.head?_cons, adv_adv, restT_adv, hL,
              List.drop_succ_cons, List.drop_zero, Nat.reduceAdd]
            cases r1 with
            | nil => simp [Spdx.parseLicense, Sim, Rel, herr, hL]
            | cons c r2 =>
              cases c with
              | op o2 =>
                cases o2 with
                | with_ =>
                  cases r2 with
                  | nil => simp [Spdx.parseLicense, Sim, Rel]
                  | cons d r3 => cases d <;> simp [Spdx.parseLicense, Sim, Rel, herr, hL]
                | _ => simp [Spdx.parseLicense, Sim, Rel, herr, hL]
              | _ => simp [Spdx.parseLicense, Sim, Rel, herr, hL]
          | with_ =>
            simp only [List.isEmpty_cons, Bool.not_false, ↓reduceIte, List.head?_cons, adv_adv, Nat.reduceAdd]
            cases r1 with
            | nil => simp [Spdx.parseLicense, Sim, Rel, hL]
            | cons d r3 => cases d <;> simp [Spdx.parseLicense, Sim, Rel, herr, hL]
          | _ => simp [Spdx.parseLicense, Sim, Rel, herr, hL]
        | _ => simp [Spdx.parseLicense, Sim, Rel, herr, hL]
    | _ => simp [Spdx.parseLicense, deref, Sim]

theorem parseLicenseRef_sim (t : TS) (herr : t.err = false) : Sim t (Spdx.parseLicenseRef (restT t)) (parseLicenseRef t) := by
  unfold parseLicenseRef parseDocPart
  simp only [peek_eq, next_eq, parseOperator_eq, Out.bind]
  -- the patterns of `Spdx.parseLicenseRef`: `LicenseRef-x`, `DocumentRef-d : LicenseRef-x`, and the latter cut short
  cases hL : restT t with
  | nil => simp [Spdx.parseLicenseRef, Sim]
  | cons a r =>
    cases a with
    | docRef d =>
      simp only [List.head?_cons, Option.isNone_some, Bool.false_eq_true, ↓reduceIte, deref, List.isEmpty_cons, restT_adv, hL,
        List.drop_succ_cons, List.drop_zero]
      cases r with
      | nil => simp [Spdx.parseLicenseRef, Sim, Rel]
      | cons b r1 =>
        cases b with
        | op o =>
          cases o with
          | colon =>
            cases r1 with
            | nil => simp [Spdx.parseLicenseRef, Sim, Rel, herr, hL]
            | cons c r2 => cases c <;> simp [Spdx.parseLicenseRef, Sim, Rel, herr, hL]
          | _ => simp [Spdx.parseLicenseRef, Sim, Rel]
        | _ => simp [Spdx.parseLicenseRef, Sim, Rel]
    | licRef x => simp [Spdx.parseLicenseRef, Sim, Rel, herr, hL, deref]
    | _ => simp [Spdx.parseLicenseRef, Sim, herr, hL, deref]

/-- no term at the cursor: the diagnostics only choose the error text -/
def diagG (t : TS) : Out (Option Node × TS) :=
  if hasMore t then
    (parseOperator .rparen t).bind fun (f1, t) =>
      if f1 then .ok (none, setErr t) else
      (parseOperator .or_ t).bind fun (f2, t) =>
        if f2 then .ok (none, setErr t) else
        (parseOperator .and_ t).bind fun (_, t) => .ok (none, setErr t)
  else .ok (none, setErr t)

theorem rel_ite {pr : PR Node} {c : Prop} [Decidable c] {x y : Out (Option Node × TS)} (hx : Rel pr x) (hy : Rel pr y) :
    Rel pr (if c then x else y) := by
  split <;> assumption

theorem diagG_err (t : TS) : Rel .err (diagG t) := by
  have stop : ∀ t : TS, Rel .err (.ok (none, setErr t)) := fun t => ⟨_, rfl, rfl⟩
  have op : ∀ o t f, (∀ x, Rel .err (f x)) → Rel .err ((parseOperator o t).bind f) := fun o t f h => by
    rw [parseOperator_eq]; exact h _
  refine rel_ite (op _ _ _ fun (f1, t) => rel_ite (stop _) ?_) (stop _)
  exact op _ _ _ fun (f2, t) => rel_ite (stop _) (op _ _ _ fun _ => stop _)

/-- what `parseAnd` / `parseExpression` do after their left operand (`again` is the recursive call, `mk` the node) -/
def chainG (o : Op) (mk : Node → Node → Node) (again : TS → Out (Option Node × TS)) (l : Option Node) (t : TS) :
    Out (Option Node × TS) :=
  if t.err then .ok (none, t) else
  match l with
  | none => .ok (none, t)
  | some left =>
    if !hasMore t then .ok (some left, t) else
    (parseOperator o t).bind fun (found, t) =>
      if !found then .ok (some left, t) else
      if !hasMore t then .ok (none, setErr t) else
      (again t).bind fun (r, t) =>
        if t.err then .ok (none, t) else
        match r with
        | none => .ok (none, setErr t)
        | some right => .ok (some (mk left right), t)

theorem parseAnd_succ (f : Nat) (t : TS) :
    parseAnd (f + 1) t = (parseAtom f t).bind fun (l, t) => chainG .and_ .and (parseAnd f) l t := rfl

theorem parseExpression_succ (f : Nat) (t : TS) :
    parseExpression (f + 1) t = (parseAnd f t).bind fun (l, t) => chainG .or_ .or (parseExpression f) l t := rfl

theorem chain_sim {o : Op} {mk : Node → Node → Node} {again : TS → Out (Option Node × TS)} {againL : List Tok → PR Node}
    {pr : PR Node} {out : Out (Option Node × TS)} (N : Nat) (h : Rel pr out)
    (hN : ∀ a r, pr = .ok a r → r.length ≤ N)
    (hag : ∀ t, t.err = false → (restT t).length < N → Rel (againL (restT t)) (again t)) :
    Rel (chainL o mk againL pr) (out.bind fun (l, t) => chainG o mk again l t) := by
  cases pr with
  | ok a r =>
    obtain ⟨t1, rfl, he1, hr1⟩ := h
    have hlen := hN a r rfl
    simp only [bind_ok, chainG, he1, Bool.false_eq_true, ↓reduceIte, hasMore_eq, parseOperator_eq, hr1]
    by_cases hx : r.head? = some (.op o)
    · obtain ⟨r', rfl⟩ := List.head?_eq_some_iff.mp hx
      have hr2 := restT_adv_one hr1
      simp only [if_pos hx, List.isEmpty_cons, Bool.not_false, Bool.not_true, Bool.false_eq_true, ↓reduceIte, hr2, chainL]
      cases r' with
      | nil => exact ⟨_, rfl, rfl⟩
      | cons y r' =>
        have ih := hag (adv t1 1) he1 (by rw [hr2]; exact hlen)
        rw [hr2] at ih
        simp only [List.isEmpty_cons, Bool.not_false]
        generalize againL (y :: r') = pb at ih ⊢
        cases pb with
        | ok b r'' =>
          obtain ⟨t2, hg, he2, hr2⟩ := ih
          exact ⟨t2, by simp only [hg, bind_ok, he2, Bool.not_true, Bool.false_eq_true, ↓reduceIte], he2, hr2⟩
        | _ =>
          obtain ⟨t2, hg, he2⟩ := ih
          exact ⟨t2, by simp only [hg, bind_ok, he2, Bool.not_true, Bool.false_eq_true, ↓reduceIte], he2⟩
    · rw [chainL_stop hx]
      simp only [if_neg hx, Bool.not_false, ↓reduceIte, ite_self]
      exact ⟨t1, rfl, he1, hr1⟩
  | _ =>
    obtain ⟨t1, rfl, he1⟩ := h
    exact ⟨t1, by simp only [bind_ok, chainG, he1, ↓reduceIte], he1⟩

def parseAtG : Lvl → Nat → TS → Out (Option Node × TS)
  | .atom => parseAtom | .andE => parseAnd | .expr => parseExpression

/-- with `n` tokens left, fuel `3n + lvN lv` is enough for the list parser and `4n + lvN lv + 1` for the Go-shaped one;
    `n` bounds the input whatever the outcome, where `need` (Spec/Grammar) measures a phrase that is accepted -/
def lvN : Lvl → Nat
  | .atom => 1 | .andE => 2 | .expr => 3

/-- `parseParenthesizedExpression` after the inner expression -/
def parenTailG : Option Node × TS → Out (Option Node × TS) := fun (e, t) =>
  if t.err then .ok (none, t) else
  if !hasMore t then .ok (none, setErr t) else
  (parseOperator .rparen t).bind fun (close, t) =>
    if !close then .ok (none, setErr t) else .ok (e, t)

theorem parseParen_succ (f : Nat) (t : TS) : parseParen (f + 1) t =
    (parseOperator .lparen t).bind fun (found, t) =>
      if !found then .ok (none, t) else (parseExpression f t).bind parenTailG := rfl

theorem parseAtom_succ (f : Nat) (t : TS) : parseAtom (f + 1) t =
    firstG (parseParen f t) fun t => firstG (parseLicenseRef t) fun t => firstG (parseLicense t) diagG := rfl

theorem close_sim {pr : PR Node} {out : Out (Option Node × TS)} (h : Rel pr out) : Rel (closeL pr) (out.bind parenTailG) := by
  cases pr with
  | ok e r =>
    obtain ⟨t1, rfl, he1, hr1⟩ := h
    simp only [bind_ok, parenTailG, he1, Bool.false_eq_true, ↓reduceIte, hasMore_eq, parseOperator_eq, hr1]
    by_cases hx : r.head? = some (.op .rparen)
    · obtain ⟨r', rfl⟩ := List.head?_eq_some_iff.mp hx
      simp only [if_pos hx, List.isEmpty_cons, Bool.not_false, Bool.not_true, Bool.false_eq_true, ↓reduceIte]
      exact ⟨_, rfl, he1, restT_adv_one hr1⟩
    · rw [closeL_err hx]
      simp only [if_neg hx, Bool.not_false, ↓reduceIte, ite_self]
      exact ⟨_, rfl, rfl⟩
  | _ =>
    obtain ⟨t1, rfl, he1⟩ := h
    exact ⟨t1, by simp only [bind_ok, parenTailG, he1, ↓reduceIte], he1⟩

theorem sim_all (g : Nat) : ∀ lv l t, t.err = false → 3 * (restT t).length + lvN lv ≤ l →
    4 * (restT t).length + lvN lv + 1 ≤ g → Rel (parseAt lv l (restT t)) (parseAtG lv g t) := by
  induction g using Nat.strongRecOn with
  | ind g ih =>
    intro lv l t herr hl hg
    have chain : ∀ lv' lv o mk, lvN lv = lvN lv' + 1 → 3 * (restT t).length + lvN lv ≤ l → 4 * (restT t).length + lvN lv + 1 ≤ g →
        (∀ f ts, parseAt lv (f + 1) ts = chainL o mk (parseAt lv f) (parseAt lv' f ts)) →
        (∀ f t, parseAtG lv (f + 1) t = (parseAtG lv' f t).bind fun (x, t) => chainG o mk (parseAtG lv f) x t) →
        Rel (parseAt lv l (restT t)) (parseAtG lv g t) := by
      intro lv' lv o mk hlv hl hg eL eG
      obtain ⟨g, rfl⟩ : ∃ g', g = g' + 1 := ⟨g - 1, by omega⟩
      obtain ⟨l, rfl⟩ : ∃ l', l = l' + 1 := ⟨l - 1, by omega⟩
      rw [eL, eG]
      exact chain_sim (restT t).length (ih g (by omega) lv' l t herr (by omega) (by omega)) (fun a r h => parseAt_rest_le h)
        (fun t2 he2 hlt => ih g (by omega) lv l t2 he2 (by omega) (by omega))
    cases lv with
    | expr => exact chain .andE .expr .or_ .or rfl hl hg Spdx.parseExpression_succ parseExpression_succ
    | andE => exact chain .atom .andE .and_ .and rfl hl hg Spdx.parseAnd_succ parseAnd_succ
    | atom =>
      simp only [lvN] at hl hg
      obtain ⟨g, rfl⟩ : ∃ g', g = g' + 2 := ⟨g - 2, by omega⟩
      obtain ⟨l, rfl⟩ : ∃ l', l = l' + 1 := ⟨l - 1, by omega⟩
      rw [parseAtG, parseAtom_succ, parseParen_succ, parseOperator_eq, bind_ok]
      by_cases hp : (restT t).head? = some (.op .lparen)
      · obtain ⟨rest, hL⟩ := List.head?_eq_some_iff.mp hp
        have hr1 := restT_adv_one hL
        have ihE := ih g (by omega) .expr l (adv t 1) herr (by rw [hr1]; simp only [lvN, hL, List.length_cons] at hl ⊢; omega)
          (by rw [hr1]; simp only [lvN, hL, List.length_cons] at hg ⊢; omega)
        rw [if_pos hp, hL, Spdx.parseAtom_paren, ← hr1]
        exact (close_sim ihE).first
      · rw [if_neg hp, Spdx.parseAtom_leaf _ _ hp]
        exact Sim.first (pr := .none) rfl herr
          ((parseLicenseRef_sim t herr).first herr ((parseLicense_sim t herr).first herr (diagG_err t)))

/- The simulation gives `IsOk` only for cursors with `err = false` inside the token list; `C03.g_helpers_never_panic`
   speaks of every cursor (past the end included), so the helpers are followed branch by branch. -/
theorem parseOperator_ok (o : Op) (t : TS) : (parseOperator o t).IsOk := ⟨_, parseOperator_eq o t⟩

theorem parseWith_ok (t : TS) : (parseWith t).IsOk := ⟨_, parseWith_eq t⟩

theorem parseLicense_ok (t : TS) : (parseLicense t).IsOk := by
  unfold parseLicense
  rw [peek_eq, bind_ok]
  cases (restT t).head? with
  | none => exact isOk_ok _
  | some x =>
    refine isOk_ite (isOk_ok _) (isOk_bind ⟨x, rfl⟩ fun x => ?_)
    cases x with
    | lic id =>
      refine isOk_ite (isOk_bind (parseOperator_ok _ _) fun (plus, t) =>
        isOk_ite (isOk_bind (parseWith_ok _) fun (exc, t) => isOk_ite (isOk_ok _) ?_) (isOk_ok _)) (isOk_ok _)
      cases exc <;> exact isOk_ok _
    | _ => exact isOk_ok _

theorem parseDocPart_ok (x : Tok) (t : TS) : (parseDocPart x t).IsOk := by
  unfold parseDocPart
  cases x with
  | docRef d => exact isOk_bind (parseOperator_ok _ _) fun (found, t) => isOk_ite (isOk_ok _) (isOk_ok _)
  | _ => exact isOk_ok _

theorem parseLicenseRef_ok (t : TS) : (parseLicenseRef t).IsOk := by
  unfold parseLicenseRef
  rw [peek_eq, bind_ok]
  cases (restT t).head? with
  | none => exact isOk_ok _
  | some x =>
    refine isOk_ite (isOk_ok _) (isOk_bind ⟨x, rfl⟩ fun x => isOk_bind (parseDocPart_ok _ _) fun (doc, t) =>
      isOk_ite (isOk_ok _) ?_)
    rw [peek_eq, bind_ok]
    cases (restT t).head? with
    | none =>
      -- the nil test is what keeps `deref` from running here
      simp only [Option.isNone_none, ↓reduceIte]
      exact isOk_ite (isOk_ok _) (isOk_ok _)
    | some y =>
      refine isOk_ite (isOk_ite (isOk_ok _) (isOk_ok _)) (isOk_bind ⟨y, rfl⟩ fun y => ?_)
      cases y with
      | licRef r => exact isOk_ok _
      | _ => exact isOk_ite (isOk_ok _) (isOk_ok _)

theorem parseTokens_G_eq (ts : List Tok) : G.parseTokens ts = .ok (Spdx.parseTokens ts) := by
  cases ts with
  | nil => rfl
  | cons x xs =>
    have h : Rel (Spdx.parseExpression (3 * (xs.length + 1) + 3) (x :: xs))
        (parseExpression (4 * (xs.length + 1) + 4) ⟨x :: xs, 0, false⟩) :=
      sim_all _ .expr _ ⟨x :: xs, 0, false⟩ rfl (Nat.le_refl _) (Nat.le_refl _)
    simp only [G.parseTokens, Spdx.parseTokens, List.length_cons, Nat.add_one_ne_zero, ↓reduceIte]
    generalize Spdx.parseExpression _ _ = pr at h ⊢
    cases pr with
    | ok n r =>
      obtain ⟨t1, hG, he, hr⟩ := h
      simp only [hG, bind_ok, he, Bool.false_eq_true, ↓reduceIte, hasMore_eq, hr]
      cases r with
      | nil => rfl
      | cons y r' =>
        simp only [List.isEmpty_cons, Bool.not_false, ↓reduceIte, parseOperator_eq, bind_ok]
        -- tokens are left over: the diagnostics run, and the answer is nil whatever they find
        split
        · rfl
        · obtain ⟨_, hl⟩ := parseLicense_ok t1
          rw [hl]
          rfl
    | _ =>
      obtain ⟨t1, hG, he⟩ := h
      simp only [hG, bind_ok, he, ↓reduceIte]

theorem parseTokens_G_iff (ts : List Tok) (n : Node) : G.parseTokens ts = .ok (some n) ↔ D .expr ts n := by
  rw [parseTokens_G_eq, ← Spdx.parseTokens_iff]
  exact ⟨fun h => Out.ok.inj h, fun h => by rw [h]⟩

end Spdx.G
