/-
Props/C01Heap — C01, the expansion at the level of Go's slices: backing arrays, capacities, `append` in place.

`verdict_eq_eval` (Props/C01) is about `expand`, in which an alternative is a VALUE.  In the Go source an alternative is
a slice header, and `append(l, r...)` writes into `l`'s backing array whenever its capacity allows: two alternatives that
share an array overwrite each other, and the verdict is then computed over terms the expression does not contain
(defect D4, repaired by "fix: copy the left alternative in appendTerms instead of aliasing it").  The theorems below say
that the code as it stands cannot do that, for every tree, every starting heap and EVERY growth policy of `append`:
the heap-level expansion (Model/GoHeap, a statement-by-statement transliteration with `append` in place or by copy)
denotes the functional expansion, every alternative lives in an array of its own, nothing that existed before is
written to, and the in-place sorts of `deepSort` sort exactly the alternative they are given.
-/
import SpdxVerif.Lemmas.GoHeap
import SpdxVerif.Gen.Census
namespace Spdx.C01
open Spdx.H

/-- the heap-level expansion denotes the model's expansion — whatever capacities `append` chooses -/
theorem heap_expand_refines (grow : Nat → Nat → Nat) (n : Node) : expandTermRead grow n = expandTerm n :=
  (expandTermH_spec grow n []).1

/-- … and from any starting heap, whose arrays it leaves exactly as they were -/
theorem heap_expand_refines_any_heap (grow : Nat → Nat → Nat) (n : Node) (h : Heap) :
    (expandTermH grow n h).1.map (read (expandTermH grow n h).2) = expandTerm n ∧
    ∀ i, i < h.length → (expandTermH grow n h).2[i]? = h[i]? :=
  have ⟨val, _, same, _⟩ := expandTermH_spec grow n h
  ⟨val, same⟩

/-- separation: no two alternatives of the result share a backing array, and every header lies within its array -/
theorem heap_expand_separated (grow : Nat → Nat → Nat) (n : Node) (h : Heap) :
    ((expandTermH grow n h).1.map (·.arr)).Nodup ∧
    ∀ s ∈ (expandTermH grow n h).1, s.arr < (expandTermH grow n h).2.length ∧
      s.len ≤ (cellsOf (expandTermH grow n h).2 s.arr).length ∧ h.length ≤ s.arr :=
  have ⟨_, _, _, ok, nodup⟩ := expandTermH_spec grow n h
  ⟨nodup, fun s m => ⟨(ok s m).1.1, (ok s m).1.2, (ok s m).2⟩⟩

/-- `expand(true)`: with the in-place inner sorts of `deepSort` the heap-level result is the model's `deepSort` of the
    model's expansion -/
theorem heap_expand_sorted_refines (grow : Nat → Nat → Nat) (n : Node) :
    expandReadSorted grow n = deepSort (expandTerm n) := by
  have ⟨val, _, _, ok, nodup⟩ := expandTermH_spec grow n []
  show sortBy _ ((expandTermH grow n []).1.map (read (sortAllH _ _))) = sortBy _ ((expandTerm n).map sortLeaves)
  rw [(sortAllH_spec _ _ nodup fun s m => (ok s m).1).1, ← val, List.map_map]
  rfl

/-- so for every expression node the model's `expand` IS what the slices hold -/
theorem heap_expand_eq_expand (grow : Nat → Nat → Nat) (n : Node) (hn : n.isLeaf = false) :
    expand n = expandReadSorted grow n := by
  rw [heap_expand_sorted_refines]; simp [expand, hn]

/-! ### the tie to the source: where the expansion allocates and appends

`Gen/Census.allocOps` is regenerated from the source on every run: per function the number of `append` calls, of
`append(x, y...)` calls among them, and of `make` calls.  Model/GoHeap transliterates exactly these: `expandOrTerm`
(`append(result, []*node{term})`, two `append(result, left...)` on the OUTER slice), `expandAndTerm` (one
`append(result, []*node{term})`), `appendTerms` (`make`, `append(tmp, l...)`, `append(tmp, r...)`, `append(result, tmp)`),
`mergeTerms` (`append(l, r...)`); `expandOr`, `expandAnd`, `expand`, `deepSort`, `sortAndDedup`, `isCompatible` neither
append nor allocate.  An `append` that appears, disappears or changes shape in any of them breaks this obligation. -/

private def fn (s : String) : List Nat := s.toUTF8.toList.map (·.toNat)

def expansionFunctions : List (List Nat) :=
  [fn "expand", fn "expandOr", fn "expandOrTerm", fn "expandAnd", fn "expandAndTerm", fn "appendTerms", fn "mergeTerms",
   fn "deepSort", fn "sortLicenses", fn "sortAndDedup", fn "isCompatible", fn "Satisfies"]

def expansionAllocs : List (List Nat × Nat × Nat × Nat) :=
  (Census.allocOps.filter (fun p => expansionFunctions.contains p.2.1)).map (fun p => p.2)

theorem expansion_allocs_exact : expansionAllocs =
    [(fn "expandOrTerm", 3, 2, 0), (fn "expandAndTerm", 1, 0, 0), (fn "appendTerms", 3, 2, 1), (fn "mergeTerms", 1, 1, 0)] := by
  decide +kernel

/-! ### non-vacuity: the layer expresses the defect

`((A AND B) AND C) AND (D OR E)` with Go's doubling policy: `[A B C]` sits in an array of capacity 4, and the
`appendTerms` of the tree before the repair appends `D` and then `E` behind it IN THE SAME ARRAY — both alternatives
then read `[A B C E]`. -/
private def A : Node := .lic [65] false none
private def B : Node := .lic [66] false none
private def C : Node := .lic [67] false none
private def Dn : Node := .lic [68] false none
private def E : Node := .lic [69] false none
private def witness : Node := .and (.and (.and A B) C) (.or Dn E)

example : expandTerm witness = [[A, B, C, Dn], [A, B, C, E]] := by decide +kernel
example : (let p := expandTermAliasH growDouble witness []; p.1.map (read p.2)) = [[A, B, C, E], [A, B, C, E]] := by decide +kernel
example : expandTermRead growDouble witness = [[A, B, C, Dn], [A, B, C, E]] := by decide +kernel
/-- the aliasing variant violates separation on the witness -/
example : ¬ ((expandTermAliasH growDouble witness []).1.map (·.arr)).Nodup := by decide +kernel
/-- `append` does write in place in the code as it stands (`tmp` of `appendTerms` is filled in place): the refinement
    is not true for the trivial reason that every append copies -/
example : (appendG growDouble (alloc [] [] 2).2 (alloc [] [] 2).1 [A]).1.arr = 0 := by decide +kernel

/-- alternatives are NOT always full: after `(A AND B) AND C` the one alternative has length 3 in an array of capacity 4
    (so "append always copies" — the premise of every re-introduction of the defect, seeds C01-w10m1 / C06-w10m1 — is false,
    and separation, not fullness, is the invariant that makes the code right) -/
example : (let p := expandTermH growDouble (.and (.and A B) C) []; p.1.map (fun s => (s.len, capOf p.2 s.arr))) = [(3, 4)] := by
  decide +kernel

end Spdx.C01
