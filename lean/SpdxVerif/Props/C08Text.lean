/-
C08 (string level) — equivalent spellings of a license are interchangeable everywhere.  `X+` and `X-or-later` scan to the
very same tokens (`toks_plus_orLater`), so the trees are equal; `X` and `X-only` scan to one licence token each, the ids
at the same position of the range table (`toks_only`), so the trees are related by `NodeRel` and the entry points agree
(Lemmas/SwapText).

Reading of the pairs: `X` is a word of id bytes that begins with no operator keyword or ref prefix, and the byte that
follows the spelling (`b` below: end of text, space, parenthesis, ` WITH …`) is neither an id byte nor a (further) `+`
(`MIT-or-later+` is valid, read `[MIT, +]`: the cascade consumes a `+` that abuts the suffix; `MIT++` is not).
"Both spellings valid" is stated as: the normalisation cascade recognises both.  Positions: the start of the text, or
anywhere after a space or a parenthesis (every place an id can validly stand).
-/
import SpdxVerif.Lemmas.SwapText
import SpdxVerif.Props.C09Text
namespace Spdx.C08

/-- anywhere in an expression or an allowed entry: same tree (hence same validity, `Satisfies`, `ExtractLicenses`) -/
theorem plus_orLater_same_tree (a : Bytes) (sep : Nat) (x b : Bytes) (hsep : sep = 32 ∨ sep = 40 ∨ sep = 41)
    (hx : allId x = true) (hc : Clean x) (hc' : Clean (x ++ sufOrLater)) (hb : Stops b) (hb43 : b.head? ≠ some 43)
    (h1 : (normCore x true).isSome = true) (h2 : (normCore (x ++ sufOrLater) false).isSome = true) :
    tree (a ++ sep :: (x ++ 43 :: b)) = tree (a ++ sep :: (x ++ sufOrLater ++ b)) ∧
    tree (x ++ 43 :: b) = tree (x ++ sufOrLater ++ b) :=
  have ht := toks_plus_orLater x b hx hc hc' hb hb43 h1 h2
  ⟨tree_eq_of_toks (toks_ctx a sep _ _ hsep (head_idChar_ne_plus hx _ hc.ne_nil)
    (List.append_assoc .. ▸ head_idChar_ne_plus hx _ hc.ne_nil) ht), tree_eq_of_toks ht⟩

theorem plus_orLater_interchangeable (a : Bytes) (sep : Nat) (x b : Bytes) (L : List Bytes) (hsep : sep = 32 ∨ sep = 40 ∨ sep = 41)
    (hx : allId x = true) (hc : Clean x) (hc' : Clean (x ++ sufOrLater)) (hb : Stops b) (hb43 : b.head? ≠ some 43)
    (h1 : (normCore x true).isSome = true) (h2 : (normCore (x ++ sufOrLater) false).isSome = true) :
    valid (a ++ sep :: (x ++ 43 :: b)) = valid (a ++ sep :: (x ++ sufOrLater ++ b)) ∧
    C07.outcome (satisfies (a ++ sep :: (x ++ 43 :: b)) L) = C07.outcome (satisfies (a ++ sep :: (x ++ sufOrLater ++ b)) L) ∧
    extract (a ++ sep :: (x ++ 43 :: b)) = extract (a ++ sep :: (x ++ sufOrLater ++ b)) :=
  have ⟨v, s, x', _⟩ := C09.results_of_tree (plus_orLater_same_tree a sep x b hsep hx hc hc' hb hb43 h1 h2).1
  ⟨v, congrArg _ (s L), x'⟩

/-- … and in an allowed entry (`b` = `[]` or ` WITH e`) -/
theorem plus_orLater_allowed_entry (e : Bytes) (pre post : List Bytes) (x b : Bytes)
    (hx : allId x = true) (hc : Clean x) (hc' : Clean (x ++ sufOrLater)) (hb : Stops b) (hb43 : b.head? ≠ some 43)
    (h1 : (normCore x true).isSome = true) (h2 : (normCore (x ++ sufOrLater) false).isSome = true) :
    C07.outcome (satisfies e (pre ++ (x ++ 43 :: b) :: post)) = C07.outcome (satisfies e (pre ++ (x ++ sufOrLater ++ b) :: post)) :=
  C07.satisfies_respell e pre post _ _
    (C09.leafOf_of_tree (plus_orLater_same_tree [] 32 x b (Or.inl rfl) hx hc hc' hb hb43 h1 h2).2)

/-- expression side, anywhere after a space or parenthesis -/
theorem only_interchangeable (a : Bytes) (sep : Nat) (x b : Bytes) (hsep : sep = 32 ∨ sep = 40 ∨ sep = 41)
    (hx : allId x = true) (hc : Clean x) (hc' : Clean (x ++ sufOnly)) (hb : Stops b) (hb43 : b.head? ≠ some 43)
    (h1 : (normCore x false).isSome = true) (h2 : (normCore (x ++ sufOnly) false).isSome = true) :
    valid (a ++ sep :: (x ++ b)) = valid (a ++ sep :: (x ++ sufOnly ++ b)) ∧
    ∀ L, satisfies (a ++ sep :: (x ++ b)) L = satisfies (a ++ sep :: (x ++ sufOnly ++ b)) L :=
  results_of_rel (tree_rel_of_toks (toksRel_ctx a sep _ _ hsep (head_idChar_ne_plus hx _ hc.ne_nil)
    (List.append_assoc .. ▸ head_idChar_ne_plus hx _ hc.ne_nil) (toks_only x b hx hc hc' hb hb43 h1 h2)))

/-- … and at the start of the text -/
theorem only_interchangeable_head (x b : Bytes)
    (hx : allId x = true) (hc : Clean x) (hc' : Clean (x ++ sufOnly)) (hb : Stops b) (hb43 : b.head? ≠ some 43)
    (h1 : (normCore x false).isSome = true) (h2 : (normCore (x ++ sufOnly) false).isSome = true) :
    (valid (x ++ b) = valid (x ++ sufOnly ++ b) ∧ ∀ L, satisfies (x ++ b) L = satisfies (x ++ sufOnly ++ b) L) ∧
    (∀ n, parse (x ++ b) = .ok n → ∃ n', parse (x ++ sufOnly ++ b) = .ok n' ∧ NodeRel n n') := by
  have h := tree_rel_of_toks (toks_only x b hx hc hc' hb hb43 h1 h2)
  refine ⟨results_of_rel h, fun n hn => ?_⟩
  rw [tree_eq_some.mpr hn] at h
  generalize ht : tree (x ++ sufOnly ++ b) = o at h
  cases h with
  | some hr => exact ⟨_, tree_eq_some.mp ht, hr⟩

/-- allowed-list side: an entry `X[ WITH e]` re-spelled `X-only[ WITH e]` -/
theorem only_allowed_entry (e : Bytes) (pre post : List Bytes) (x b : Bytes) (l : Node)
    (hx : allId x = true) (hc : Clean x) (hc' : Clean (x ++ sufOnly)) (hb : Stops b) (hb43 : b.head? ≠ some 43)
    (h1 : (normCore x false).isSome = true) (h2 : (normCore (x ++ sufOnly) false).isSome = true)
    (hl : leafOf (x ++ b) = some l) :
    C07.outcome (satisfies e (pre ++ (x ++ b) :: post)) = C07.outcome (satisfies e (pre ++ (x ++ sufOnly ++ b) :: post)) :=
  congrArg C07.outcome (satisfies_rel e e pre post _ _ (rel_self _) (tree_rel_of_toks (toks_only x b hx hc hc' hb hb43 h1 h2)))

def cleanB (w : Bytes) : Bool :=
  (match readOp w with | none => true | some _ => false) && !docRefPrefix.isPrefixOf w && !licRefPrefix.isPrefixOf w && !w.isEmpty

theorem clean_of_cleanB {w : Bytes} (h : cleanB w = true) : Clean w := by
  simp only [cleanB, Bool.and_eq_true, Bool.not_eq_true'] at h
  obtain ⟨⟨⟨h1, h2⟩, h3⟩, h4⟩ := h
  refine ⟨?_, h2, h3, by intro hh; subst hh; simp at h4⟩
  cases hr : readOp w with
  | none => rfl
  | some p => rw [hr] at h1; cases h1

/-- table obligation: an active id consists of id bytes and, with either suffix, still begins with no operator keyword or
    ref prefix -/
theorem active_suffixed_clean :
    Tables.active.all (fun x => cleanB (x ++ sufOnly) && cleanB (x ++ sufOrLater) && allId x) = true := by decide +kernel

theorem valid_of_toks_lic (s c : Bytes) (h : toks s = some [.lic c] ∨ toks s = some [.lic c, .op .plus]) : valid s = true :=
  valid_iff_D.mpr (h.elim (fun h => ⟨_, _, h, .or1 (.and1 (.lic c))⟩) (fun h => ⟨_, _, h, .or1 (.and1 (.licP c))⟩))

theorem valid_word (w c : Bytes) (p : Bool) (hw : allId w = true) (hc : Clean w)
    (hn : normCore w false = some (.lic c :: (if p then [.op .plus] else []), false)) : valid w = true := by
  have h := toks_word_noPlus w [] _ hw hc stops_nil nofun hn
  rw [List.append_nil] at h
  cases p
  · exact valid_of_toks_lic _ c (Or.inl (by simpa [toks_nil] using h))
  · exact valid_of_toks_lic _ c (Or.inr (by simpa [toks_nil] using h))

/-- **every active id is valid in all four spellings** `X`, `X-only`, `X+`, `X-or-later` -/
theorem active_all_spellings (x : Bytes) (hx : x ∈ Tables.active) :
    valid x = true ∧ valid (x ++ sufOnly) = true ∧ valid (x ++ [43]) = true ∧ valid (x ++ sufOrLater) = true := by
  have hob := List.all_eq_true.mp active_suffixed_clean x hx
  simp only [Bool.and_eq_true] at hob
  obtain ⟨⟨ho, hl⟩, hid⟩ := hob
  have hc : Clean x := clean_listed (List.mem_append_left _ (List.mem_append_left _ hx))
  have hll := licenseLookup_active hx
  refine ⟨valid_word x x false hid hc (normCore_active hx false), ?_, ?_, ?_⟩
  · -- X-only: listed itself, or read as X
    have hx' : allId (x ++ sufOnly) = true := by rw [allId_append, hid]; decide
    obtain ⟨c, hn⟩ : ∃ c, normCore (x ++ sufOnly) false = some ([.lic c], false) := by
      cases h1 : licenseLookup (x ++ sufOnly) with
      | none => exact ⟨x, by simp [normCore, h1, stripSuffix_append, hll]⟩
      | some t => obtain ⟨c, rfl, -, -⟩ := licenseLookup_only h1; exact ⟨c, normCore_self h1 false⟩
    exact valid_word _ c false hx' (clean_of_cleanB ho) hn
  · exact valid_of_toks_lic _ x (Or.inr ((toks_text (.word x true) ⟨hid, hc⟩).trans (by simp [Lexeme.toks, normCore_active hx true])))
  · refine valid_word _ x true (by rw [allId_append, hid]; decide) (clean_of_cleanB hl) ?_
    rw [normCore_orLater_unlisted x (lookup_orLater_none_of x (Or.inl (by rw [hll]; simp))), hll]; rfl

end Spdx.C08
