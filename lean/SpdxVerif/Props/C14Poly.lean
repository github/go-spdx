/-
C14 (the polynomial fragment) — where exactly the known finding D8 sits.  `orRank n` is the largest number of
OR-groups that the expression multiplies together (AND adds the ranks of its operands, OR takes the larger, at least 1).
The number of alternatives is at most `terms ^ orRank`, so the cost of the algorithm as written is a polynomial of degree
`orRank + 1` in the length of the text; it is the rank, not the length, that the exponential family of D8 drives up
(`orRank (andOfOrs x y k) = k + 1`).  For every expression already in OR-of-ANDs shape the rank is at most 1: at most `|s|`
alternatives, `|s|²` leaf slots.  The rank can be read off the text: at most the number of opening parentheses (1 if there are none).
-/
import SpdxVerif.Props.C14Cost
namespace Spdx.C14

def orRank : Node → Nat
  | .and l r => orRank l + orRank r
  | .or l r => max 1 (max (orRank l) (orRank r))
  | _ => 0

def orFree : Node → Bool
  | .and l r => orFree l && orFree r
  | .or _ _ => false
  | _ => true

/-- an OR of OR-free groups: the shape `expand` produces -/
def dnfShaped : Node → Bool
  | .or l r => dnfShaped l && dnfShaped r
  | n => orFree n

theorem pow_add_pow_le (a b : Nat) : ∀ m, 1 ≤ m → a ^ m + b ^ m ≤ (a + b) ^ m
  | m + 1, _ => by
    rw [Nat.pow_succ, Nat.pow_succ, Nat.pow_succ, Nat.mul_add]
    exact Nat.add_le_add (Nat.mul_le_mul_right _ (Nat.pow_le_pow_left (Nat.le_add_right a b) m))
      (Nat.mul_le_mul_right _ (Nat.pow_le_pow_left (Nat.le_add_left b a) m))

/-- for every `d` from the rank on, since an OR adds the bounds of its operands at a common exponent `d ≥ 1` -/
theorem alts_le_pow_of_rank_le (n : Node) : ∀ d, orRank n ≤ d → alts n ≤ leafCount n ^ d := by
  induction n with
  | lic | ref => exact fun d _ => Nat.le_of_eq (Nat.one_pow d).symm
  | and l r ihl ihr =>
    intro d hd
    calc alts l * alts r ≤ leafCount l ^ orRank l * leafCount r ^ orRank r :=
          Nat.mul_le_mul (ihl _ (Nat.le_refl _)) (ihr _ (Nat.le_refl _))
      _ ≤ (leafCount l + leafCount r) ^ orRank l * (leafCount l + leafCount r) ^ orRank r :=
          Nat.mul_le_mul (Nat.pow_le_pow_left (Nat.le_add_right ..) _) (Nat.pow_le_pow_left (Nat.le_add_left ..) _)
      _ = (leafCount l + leafCount r) ^ (orRank l + orRank r) := (Nat.pow_add ..).symm
      _ ≤ (leafCount l + leafCount r) ^ d := Nat.pow_le_pow_right (Nat.add_pos_left (leafCount_pos l) _) hd
  | or l r ihl ihr =>
    intro d hd
    have h : 1 ≤ d ∧ orRank l ≤ d ∧ orRank r ≤ d := by simp only [orRank] at hd; omega
    exact Nat.le_trans (Nat.add_le_add (ihl d h.2.1) (ihr d h.2.2)) (pow_add_pow_le _ _ d h.1)

/-- **alternatives ≤ terms ^ rank** -/
theorem alts_le_pow_rank (n : Node) : alts n ≤ leafCount n ^ orRank n :=
  alts_le_pow_of_rank_le n _ (Nat.le_refl _)

theorem orRank_orFree : ∀ n : Node, orFree n = true → orRank n = 0
  | .lic .., _ | .ref .., _ => rfl
  | .and l r, h => by
    simp only [orFree, Bool.and_eq_true] at h
    rw [orRank, orRank_orFree l h.1, orRank_orFree r h.2]

theorem orRank_dnfShaped : ∀ n : Node, dnfShaped n = true → orRank n ≤ 1
  | .lic .., _ | .ref .., _ => Nat.zero_le 1
  | .and l r, h => orRank_orFree (.and l r) h ▸ Nat.zero_le 1
  | .or l r, h => by
    simp only [dnfShaped, Bool.and_eq_true] at h
    have := orRank_dnfShaped l h.1
    have := orRank_dnfShaped r h.2
    simp only [orRank]
    omega

/-- the rank of the family of the known finding grows with the text: this, and nothing else, is what D8 exploits -/
theorem orRank_andOfOrs (x y : Node) (hx : x.isLeaf = true) (hy : y.isLeaf = true) (k : Nat) :
    orRank (andOfOrs x y k) = k + 1 := by
  have leaf : ∀ {z : Node}, z.isLeaf = true → orRank z = 0
    | .lic .., _ | .ref .., _ => rfl
  induction k with
  | zero => rw [andOfOrs, orRank, leaf hx, leaf hy]; rfl
  | succ k ih => rw [andOfOrs, orRank, ih, orRank, leaf hx, leaf hy, Nat.add_comm]; rfl

/-- **the polynomial fragment, on byte strings**: an expression that multiplies at most `d` OR-groups materialises at most
    `|s|^d` alternatives and `|s|^(d+1)` leaf slots -/
theorem cost_polynomial_in_rank (s : Bytes) (n : Node) (h : parse s = .ok n) (d : Nat) (hd : orRank n ≤ d) :
    (expand n).length ≤ s.length ^ d ∧ slotsOf (expandTerm n) ≤ s.length ^ (d + 1) := by
  obtain ⟨hl, hs, he⟩ := cost_inputs_bounded s n h
  have ha : alts n ≤ s.length ^ d := Nat.le_trans (alts_le_pow_of_rank_le n d hd) (Nat.pow_le_pow_left hl _)
  refine ⟨he ▸ ha, ?_⟩
  calc slotsOf (expandTerm n) ≤ alts n * s.length := hs
    _ ≤ s.length ^ d * s.length := Nat.mul_le_mul_right _ ha
    _ = s.length ^ (d + 1) := by rw [Nat.pow_succ]

/-- **expressions already in OR-of-ANDs shape are expanded at quadratic cost at most** (alternatives ≤ |s|, slots ≤ |s|²) -/
theorem dnf_shaped_quadratic (s : Bytes) (n : Node) (h : parse s = .ok n) (hd : dnfShaped n = true) :
    (expand n).length ≤ s.length ∧ slotsOf (expandTerm n) ≤ s.length ^ 2 := by
  have := cost_polynomial_in_rank s n h 1 (orRank_dnfShaped n hd)
  simpa using this

-- non-vacuity: `MIT OR (ISC AND Zlib)` is in OR-of-ANDs shape, `(MIT OR ISC) AND Zlib` has rank 1 but is not
example : dnfShaped (.or (.lic [77,73,84] false none) (.and (.lic [73,83,67] false none) (.lic [90,108,105,98] false none))) = true := by decide
example : dnfShaped (.and (.or (.lic [77,73,84] false none) (.lic [73,83,67] false none)) (.lic [90,108,105,98] false none)) = false := by decide
example : orRank (.and (.or (.lic [77,73,84] false none) (.lic [73,83,67] false none)) (.lic [90,108,105,98] false none)) = 1 := by decide

def lparens : List Tok → Nat
  | [] => 0
  | .op .lparen :: r => lparens r + 1
  | _ :: r => lparens r

theorem lparens_append (a b : List Tok) : lparens (a ++ b) = lparens a + lparens b := by
  fun_induction lparens a with
  | case1 => exact (Nat.zero_add _).symm
  | case2 r ih => rw [List.cons_append, lparens, ih, Nat.add_right_comm]
  | case3 t r h ih =>
    rw [List.cons_append, lparens, ih]
    exact h

/-- **the rank can be read off the text**: an OR group that is multiplied with another one has to be written in parentheses
    (AND binds tighter than OR), so the rank of a grammatical token sequence is at most its number of opening parentheses
    (at most 1 when there are none) -/
theorem orRank_le_lparens {lv : Lvl} {ts : List Tok} {n : Node} (h : D lv ts n) :
    orRank n ≤ (if lv = .expr then max 1 (lparens ts) else lparens ts) := by
  induction h with
  | ref0 | ref1 | lic | licP | licW | licPW => exact Nat.zero_le _
  | paren _ ih | and1 _ ih | or1 _ ih =>
    -- a parenthesis pays for the `max 1` of the group inside it (`max 1 p ≤ p + 1`); the other two only change the level
    simp only [reduceCtorEq, if_true, if_false, List.cons_append, lparens, lparens_append] at ih ⊢
    omega
  | andC _ _ iha ihb | orC _ _ iha ihb =>
    -- AND adds ranks and parentheses alike; OR takes the larger rank, and a rank of 1 is free at the level of an OR
    simp only [reduceCtorEq, if_true, if_false, orRank, lparens, lparens_append] at iha ihb ⊢
    omega

/-- **cost bound from the text alone**: a valid expression with `p` opening parentheses materialises at most `|s|^max(1,p)`
    alternatives and `|s|^(max(1,p)+1)` leaf slots — polynomial for any fixed number of parenthesised groups; the
    exponential family of the finding D8 is the one that keeps adding groups -/
theorem cost_polynomial_in_parens (s : Bytes) (n : Node) (h : parse s = .ok n) :
    ∃ ts, toks s = some ts ∧ (expand n).length ≤ s.length ^ max 1 (lparens ts) ∧
      slotsOf (expandTerm n) ≤ s.length ^ (max 1 (lparens ts) + 1) := by
  obtain ⟨ts, h1, hd⟩ := parse_iff_D.mp h
  have hr := orRank_le_lparens hd
  simp only [if_true] at hr
  exact ⟨ts, h1, cost_polynomial_in_rank s n h _ hr⟩

end Spdx.C14
