/-
Lemmas/Outcome — what `Satisfies` computes, in closed form: on valid arguments (`C07.satisfies_eq`), and on all arguments
with the error kind forgotten (`C07.outcomeOf`, `outcome_satisfies`).
-/
import SpdxVerif.Lemmas.AllowedList
namespace Spdx

namespace C01

/-- The value `Satisfies` returns on valid arguments. -/
theorem satisfies_spec (e : Bytes) (L : List Bytes) (n : Node) (A : List Node)
    (he : parse e = .ok n) (hL : L ≠ []) (hA : toNodes L = .ok A) :
    satisfies e L = .ok (eval (covered (sortAndDedupArray A)) n) := by
  unfold satisfies
  rw [he]
  cases L with
  | nil => exact absurd rfl hL
  | cons x xs => simp [hA, verdict, verdictBy_eq_eval]; rfl

end C01

namespace C07

/-- the outcome of `Satisfies` with the error kind forgotten (`none` = an error was returned) -/
def outcome (r : Except SatErr Bool) : Option Bool := r.toOption

def Denotes (L : List Bytes) (t : Node) : Prop := ∃ x ∈ L, leafOf x = some t

def AllSingle (L : List Bytes) : Prop := ∀ x ∈ L, (leafOf x).isSome = true

/-- what `Satisfies` computes on valid arguments, with the in-place dedup eliminated: the Boolean value of the expression
    under "a term is true iff some allowed entry's term matches it" -/
theorem satisfies_eq (e : Bytes) (L : List Bytes) (n : Node) (A : List Node)
    (he : parse e = .ok n) (hL : L ≠ []) (hA : toNodes L = .ok A) :
    satisfies e L = .ok (eval (covered A) n) := by
  rw [C01.satisfies_spec e L n A he hL hA]
  exact congrArg (fun c => Except.ok (eval c n)) (coveredBy_set matchLeaf (sortAndDedupArray_mem A (toNodes_leafOK hA)))

theorem satisfies_nil (e : Bytes) : satisfies e [] = .error (if valid e then .emptyList else .badExpr) := by
  unfold satisfies valid; cases parse e <;> rfl

/-- what `Satisfies` returns (error kind forgotten) from the tree of the expression and the terms of the entries -/
def outcomeOf (t : Option Node) (T : List (Option Node)) : Option Bool :=
  if T.isEmpty || !T.all Option.isSome then none else t.map (eval (covered (T.filterMap id)))

theorem outcome_satisfies (e : Bytes) (L : List Bytes) : outcome (satisfies e L) = outcomeOf (tree e) (L.map leafOf) := by
  unfold outcomeOf
  cases hA : toNodes L with
  | ok A =>
    obtain ⟨hall, hfm⟩ := eq_map_some_iff.mp ((toNodes_eq L A).mp hA)
    rw [hall, hfm]
    cases L with
    | nil => rw [satisfies_nil]; rfl
    | cons x xs =>
      cases he : parse e with
      | error err => simp [satisfies, he, tree, outcome, Except.toOption]
      | ok n => rw [satisfies_eq e _ n A he (by simp) hA]; simp [tree, he, outcome, Except.toOption]
  | error err =>
    have hall : (L.map leafOf).all Option.isSome = false := Bool.eq_false_iff.mpr fun h => by
      have := (toNodes_eq L _).mpr (eq_map_some_iff.mpr ⟨h, rfl⟩)
      rw [hA] at this; cases this
    rw [hall, Bool.not_false, Bool.or_true, if_pos rfl]
    -- whichever test fails first, an error is returned
    unfold satisfies
    rw [hA]
    cases parse e with
    | error _ => rfl
    | ok n => dsimp only; split <;> rfl

theorem outcomeOf_set (t : Option Node) {T T' : List (Option Node)} (h : ∀ o, o ∈ T ↔ o ∈ T') :
    outcomeOf t T = outcomeOf t T' := by
  have h1 : T.isEmpty = T'.isEmpty := by
    rw [Bool.eq_iff_iff, List.isEmpty_iff, List.isEmpty_iff, List.eq_nil_iff_forall_not_mem, List.eq_nil_iff_forall_not_mem]
    exact ⟨fun k o ho => k o ((h o).mpr ho), fun k o ho => k o ((h o).mp ho)⟩
  have h2 : T.all Option.isSome = T'.all Option.isSome := by
    rw [Bool.eq_iff_iff, List.all_eq_true, List.all_eq_true]
    exact ⟨fun k o ho => k o ((h o).mpr ho), fun k o ho => k o ((h o).mp ho)⟩
  have h3 : covered (T.filterMap id) = covered (T'.filterMap id) := coveredBy_set _ (fun a => by simp [h])
  rw [outcomeOf, outcomeOf, h1, h2, h3]

theorem outcomeOf_eq_some {t : Option Node} {T : List (Option Node)} {b : Bool} : outcomeOf t T = some b ↔
    ∃ n, t = some n ∧ (T.isEmpty || !T.all Option.isSome) = false ∧ b = eval (covered (T.filterMap id)) n := by
  rw [outcomeOf]
  cases (T.isEmpty || !T.all Option.isSome) with
  | true => simp
  | false =>
    simp only [Bool.false_eq_true, ↓reduceIte, Option.map_eq_some_iff, true_and]
    exact ⟨fun ⟨n, h1, h2⟩ => ⟨n, h1, h2.symm⟩, fun ⟨n, h1, h2⟩ => ⟨n, h1, h2.symm⟩⟩

theorem outcome_eq_some {r : Except SatErr Bool} {b : Bool} : outcome r = some b ↔ r = .ok b := by
  cases r <;> simp [outcome, Except.toOption]

theorem satisfies_ok_iff {e : Bytes} {L : List Bytes} {b : Bool} : satisfies e L = .ok b ↔
    ∃ n, parse e = .ok n ∧ ((L.map leafOf).isEmpty || !(L.map leafOf).all Option.isSome) = false ∧
      b = eval (covered ((L.map leafOf).filterMap id)) n := by
  simp only [← outcome_eq_some, outcome_satisfies, outcomeOf_eq_some, tree_eq_some]

end C07

end Spdx
