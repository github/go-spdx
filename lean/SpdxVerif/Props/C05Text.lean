/-
C05 (byte level) — "a space-separated sequence of SPDX tokens is accepted iff it derives from the grammar".
-/
import SpdxVerif.Lemmas.Layout
namespace Spdx.C05

/-- **C05 on texts.** A text made of well-formed lexemes separated by single spaces (keywords and parentheses, words with an
optional abutting `+`, `LicenseRef-r`, `DocumentRef-d:LicenseRef-r`) is accepted iff every word is recognised by the
normalisation cascade and the token sequence the lexemes denote derives from the documented grammar. -/
theorem accepts_spaced_iff (ls : List Lexeme) (h : ∀ l ∈ ls, l.OK) :
    valid (spaced ls) = true ↔ ∃ ts n, allToks ls = some ts ∧ D .expr ts n := by
  rw [valid_iff_D, toks_spaced ls h]

/-- … and the tree is the one the derivation denotes -/
theorem parse_spaced (ls : List Lexeme) (h : ∀ l ∈ ls, l.OK) (n : Node) :
    parse (spaced ls) = .ok n ↔ ∃ ts, allToks ls = some ts ∧ D .expr ts n := by
  rw [parse_iff_D, toks_spaced ls h]

/-- **C05 in loose and tight spacing.** The same for every LAYOUT of the lexemes: any number of spaces before each lexeme and
at the end of the text, and no space at all wherever a parenthesis stands on one side (`(MIT)AND(ISC)`, `( MIT )`,
`  MIT   AND ISC  `): the text is accepted iff every word is recognised and the token sequence derives from the grammar —
the layout plays no part. -/
theorem accepts_layout_iff (ps : List (Nat × Lexeme)) (t : Nat) (h : ∀ p ∈ ps, p.2.OK) (ht : TightOK ps) :
    valid (laidOut ps t) = true ↔ ∃ ts n, allToks (ps.map (·.2)) = some ts ∧ D .expr ts n := by
  rw [valid_iff_D, toks_laidOut ps t h ht]

theorem parse_layout (ps : List (Nat × Lexeme)) (t : Nat) (h : ∀ p ∈ ps, p.2.OK) (ht : TightOK ps) (n : Node) :
    parse (laidOut ps t) = .ok n ↔ ∃ ts, allToks (ps.map (·.2)) = some ts ∧ D .expr ts n := by
  rw [parse_iff_D, toks_laidOut ps t h ht]

/-- **the layout is irrelevant**: two layouts of the same lexemes are parsed to the same result -/
theorem layout_irrelevant (ps qs : List (Nat × Lexeme)) (t u : Nat) (hp : ∀ p ∈ ps, p.2.OK) (hpt : TightOK ps)
    (hqt : TightOK qs) (hsame : ps.map (·.2) = qs.map (·.2)) :
    (parse (laidOut ps t)).toOption = (parse (laidOut qs u)).toOption := by
  have hq : ∀ p ∈ qs, p.2.OK := List.forall_mem_map.mp (hsame ▸ List.forall_mem_map.mpr hp)
  exact tree_eq_of_toks (by rw [toks_laidOut ps t hp hpt, toks_laidOut qs u hq hqt, hsame])

/-- which words are recognised (not followed by `+`): a word on the active or exception list; such a word with `-only` or
    `-or-later` appended; a word on the deprecated list — all up to letter case -/
theorem word_recognised_iff (w : Bytes) :
    (normCore w false).isSome = true ↔
      (licenseLookup w).isSome = true ∨ ((stripSuffix? w sufOnly).bind licenseLookup).isSome = true ∨
      ((stripSuffix? w sufOrLater).bind licenseLookup).isSome = true ∨ (lookup Tables.deprecated w).isSome = true := by
  simp only [normCore_isSome, Bool.false_and, Bool.or_false, Bool.or_eq_true, or_assoc]

/-- … and followed by `+`: additionally a word `X` whose `X-or-later` is listed -/
theorem word_plus_recognised_iff (w : Bytes) :
    (normCore w true).isSome = true ↔
      (normCore w false).isSome = true ∨ (licenseLookup (w ++ sufOrLater)).isSome = true := by
  simp only [normCore_isSome, Bool.false_and, Bool.true_and, Bool.or_false, Bool.or_eq_true]
  generalize (licenseLookup (w ++ sufOrLater)).isSome = c
  cases c <;> simp

/-! ### non-vacuity: texts from the property's list of things to reject, as lexeme sequences -/
section
private def mit : Lexeme := .word [77,73,84] false
private def gpl2p : Lexeme := .word [71,80,76,45,50,46,48] true            -- GPL-2.0+
private def foo : Lexeme := .word [70,79,79] false
private def cpe : Lexeme := .word (str "Classpath-exception-2.0") false
example : valid (spaced [mit, .kwAnd, .lparen, gpl2p, .kwWith, cpe, .rparen]) = true := by decide +kernel
example : valid (spaced [mit, .kwAnd]) = false := by decide +kernel                    -- dangling operator
example : valid (spaced [mit, mit]) = false := by decide +kernel                       -- adjacent terms
example : valid (spaced [.lparen, .rparen]) = false := by decide +kernel               -- empty parentheses
example : valid (spaced [mit, .kwWith]) = false := by decide +kernel                   -- WITH without exception
example : valid (spaced [cpe]) = false := by decide +kernel                            -- exception without WITH
example : valid (spaced [foo]) = false := by decide +kernel                            -- unknown id
example : valid (spaced [.licRef [120], .kwWith, cpe]) = false := by decide +kernel    -- WITH on a LicenseRef
-- a tight / loose layout that meets the hypotheses: `  (MIT)AND( GPL-2.0+   WITH Classpath-exception-2.0 ) `
private def lay : List (Nat × Lexeme) := [(2, .lparen), (0, mit), (0, .rparen), (0, .kwAnd), (0, .lparen), (1, gpl2p), (3, .kwWith), (1, cpe), (1, .rparen)]
example : TightOK lay := by simp [lay, TightOK, Lexeme.isParen]
example : ∀ p ∈ lay, p.2.OK := by
  -- parentheses and keywords need nothing; what `OK` asks of the three words (id bytes, `Clean`) is evaluated
  simp only [lay, List.forall_mem_cons, Lexeme.OK, mit, gpl2p, cpe, Clean, true_and]
  exact ⟨by decide +kernel, by decide +kernel, by decide +kernel, nofun⟩
example : valid (laidOut lay 1) = true := by decide +kernel
example : laidOut lay 1 = str "  (MIT)AND( GPL-2.0+   WITH Classpath-exception-2.0 ) " := by decide +kernel
end

end Spdx.C05
