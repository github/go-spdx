/-
C07 — the allowed list behaves as a set and the verdict is monotone in it.
-/
import SpdxVerif.Lemmas.Dedup
namespace Spdx.C07

/-- **the verdict depends only on which terms the list covers** (for any single-term matcher) -/
theorem verdict_congr (m : Node → Node → Bool) (n : Node) (A B : List Node)
    (h : ∀ t, coveredBy m A t = coveredBy m B t) : verdictBy m n A = verdictBy m n B := by
  rw [verdictBy_eq_eval, verdictBy_eq_eval, funext h]

/-- the verdict depends only on the SET of allowed nodes: reordering and repetition are irrelevant -/
theorem verdict_set (m : Node → Node → Bool) (n : Node) (A B : List Node)
    (h : ∀ a, a ∈ A ↔ a ∈ B) : verdictBy m n A = verdictBy m n B := by
  rw [verdictBy_eq_eval, verdictBy_eq_eval, coveredBy_set m h]

/-- reordering the allowed nodes never changes the verdict -/
theorem verdict_perm (m : Node → Node → Bool) (n : Node) {A B : List Node} (h : A.Perm B) :
    verdictBy m n A = verdictBy m n B :=
  verdict_set m n A B (fun _ => h.mem_iff)

/-- repeating an entry never changes the verdict -/
theorem verdict_dup (m : Node → Node → Bool) (n : Node) (A : List Node) (a : Node) (ha : a ∈ A) :
    verdictBy m n (a :: A) = verdictBy m n A :=
  verdict_set m n _ _ (fun x => by simp only [List.mem_cons]; exact ⟨fun h => h.elim (· ▸ ha) id, Or.inr⟩)

/-- **monotone**: adding allowed nodes can turn 'not satisfied' into 'satisfied', never the reverse -/
theorem verdict_mono (m : Node → Node → Bool) (n : Node) (A B : List Node) (h : ∀ a ∈ A, a ∈ B) :
    verdictBy m n A = true → verdictBy m n B = true := by
  rw [verdictBy_eq_eval, verdictBy_eq_eval]
  exact eval_mono _ _ n (coveredBy_mono m h)

/-- hence the list `Satisfies` actually searches never covers more than the caller's list -/
theorem verdict_sortAndDedup_le (n : Node) (A : List Node) :
    verdict n (sortAndDedupArray A) = true → verdict n A = true :=
  verdict_mono matchLeaf n _ _ (sortAndDedupArray_subset A)

end Spdx.C07
