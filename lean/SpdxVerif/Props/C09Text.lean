/-
C09 (string level) — changing the letter case of a listed identifier, in the expression or in the allowed list, changes
neither validity nor the result of Satisfies nor what ExtractLicenses returns; the output carries the lists' own casing.
-/
import SpdxVerif.Props.C07List
import SpdxVerif.Props.C06
namespace Spdx.C09

/-- everything the three entry points compute depends on a string only through its tree -/
theorem results_of_tree {s s' : Bytes} (h : tree s = tree s') :
    valid s = valid s' ∧ (∀ L, satisfies s L = satisfies s' L) ∧ extract s = extract s' ∧ leafOf s = leafOf s' := by
  unfold tree at h
  unfold valid satisfies extract leafOf
  -- each of the four is a `match` on `parse` that ignores what an error says; `h`: both parses fail, or both give one tree
  match parse s, parse s', h with
  | .error _, .error _, _ => exact ⟨rfl, fun _ => rfl, rfl, rfl⟩
  | .ok _, .ok _, h => cases h; exact ⟨rfl, fun _ => rfl, rfl, rfl⟩

theorem leafOf_of_tree {s s' : Bytes} (h : tree s = tree s') : leafOf s = leafOf s' := (results_of_tree h).2.2.2

theorem results_of_toks {s s' : Bytes} (h : toks s = toks s') :
    valid s = valid s' ∧ (∀ L, satisfies s L = satisfies s' L) ∧ extract s = extract s' ∧ leafOf s = leafOf s' :=
  results_of_tree (tree_eq_of_toks h)

/-- **a listed id at the start of the text may be re-cased freely**: same tree (hence same validity, same `Satisfies`,
    same `ExtractLicenses`).  `b` is the rest of the text; it is empty or begins with a byte that cannot continue an id. -/
theorem tree_caseVariant_head (w w' b : Bytes) (hw : w ∈ listedAll) (hid : allId w = true) (h : lower w' = lower w)
    (hb : Stops b) : tree (w' ++ b) = tree (w ++ b) :=
  tree_eq_of_toks (toks_caseVariant_head w w' b hw hid h hb)

/-- **… and so may a listed id anywhere after a space or a parenthesis** (every position an id can validly occupy:
    after `(`, after `AND `/`OR `/`WITH `, after leading spaces) -/
theorem tree_caseVariant_ctx (a : Bytes) (sep : Nat) (w w' b : Bytes) (hsep : sep = 32 ∨ sep = 40 ∨ sep = 41)
    (hw : w ∈ listedAll) (hid : allId w = true) (h : lower w' = lower w) (hb : Stops b) :
    tree (a ++ sep :: (w' ++ b)) = tree (a ++ sep :: (w ++ b)) :=
  tree_eq_of_toks (toks_caseVariant_ctx a sep w w' b hsep hw hid h hb)

/-- consequences for the three entry points, expression side -/
theorem caseVariant_expression (a : Bytes) (sep : Nat) (w w' b : Bytes) (L : List Bytes) (hsep : sep = 32 ∨ sep = 40 ∨ sep = 41)
    (hw : w ∈ listedAll) (hid : allId w = true) (h : lower w' = lower w) (hb : Stops b) :
    valid (a ++ sep :: (w' ++ b)) = valid (a ++ sep :: (w ++ b)) ∧
    extract (a ++ sep :: (w' ++ b)) = extract (a ++ sep :: (w ++ b)) ∧
    C07.outcome (satisfies (a ++ sep :: (w' ++ b)) L) = C07.outcome (satisfies (a ++ sep :: (w ++ b)) L) :=
  have ⟨v, s, x, _⟩ := results_of_toks (toks_caseVariant_ctx a sep w w' b hsep hw hid h hb)
  ⟨v, x, congrArg _ (s L)⟩

/-- … and allowed-list side: re-casing a listed id inside an entry never changes the result -/
theorem caseVariant_allowed_entry (e : Bytes) (pre post : List Bytes) (w w' b : Bytes)
    (hw : w ∈ listedAll) (hid : allId w = true) (h : lower w' = lower w) (hb : Stops b) :
    C07.outcome (satisfies e (pre ++ (w' ++ b) :: post)) = C07.outcome (satisfies e (pre ++ (w ++ b) :: post)) :=
  C07.satisfies_respell e pre post _ _ (leafOf_of_tree (tree_caseVariant_head w w' b hw hid h hb))

/-- **output casing is canonical**: every licence id in what `ExtractLicenses` returns is a member of the active or
    deprecated list and every exception id a member of the exception list — spelled exactly as listed -/
theorem extract_canonical (s : Bytes) (out : List Bytes) (x : Bytes) (h : extract s = some out) (hx : x ∈ out) :
    ∃ t, x = render t ∧
      (∀ c p e, t = .lic c p e → c ∈ Tables.active ++ Tables.deprecated ∧ ∀ y, e = some y → y ∈ Tables.exceptions) := by
  obtain ⟨n, hp, -⟩ := C06.extract_some h
  obtain ⟨t, ht, rfl⟩ := (C06.extract_mem s n out hp h x).mp hx
  refine ⟨t, rfl, ?_⟩
  intro c p e hte
  subst hte
  obtain ⟨hc, -, -, he⟩ := parse_leavesOK s n hp _ ht
  exact ⟨hc.mem, fun y hy => (he y hy).mem⟩

section
private def apache : Bytes := [65,112,97,99,104,101,45,50,46,48]       -- Apache-2.0
private def apacheU : Bytes := [65,80,65,67,72,69,45,50,46,48]         -- APACHE-2.0
private def pre : Bytes := [77,73,84,32,79,82]                         -- "MIT OR"
example : apache ∈ listedAll ∧ allId apache = true ∧ lower apacheU = lower apache := by decide +kernel
example : tree (pre ++ 32 :: (apacheU ++ [])) = tree (pre ++ 32 :: (apache ++ [])) := by decide +kernel
example : (tree (pre ++ 32 :: (apacheU ++ []))).isSome = true := by decide +kernel
end

end Spdx.C09
