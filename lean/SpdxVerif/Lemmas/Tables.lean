/-
Lemmas/Tables — lifting the kernel-decided table checks to the statements used by the properties:
fold-uniqueness (decided by sorting encoded keys) ⇒ the first-match, case-insensitive `lookup` of a listed id returns
that very id, and ids of different lists never shadow one another.
-/
import SpdxVerif.Spec.TableChecks
import SpdxVerif.Lemmas.Match
namespace Spdx

theorem beqBytes_eq_beq (a b : Bytes) : beqBytes a b = (a == b) := by
  rw [Bool.eq_iff_iff, beq_iff_eq]
  refine ⟨beqBytes_eq, ?_⟩
  rintro rfl
  induction a with
  | nil => rfl
  | cons x a ih => rw [beqBytes, Nat.beq_refl, ih]; rfl

theorem any_beqBytes {tbl : List Bytes} {b : Bytes} : tbl.any (beqBytes b) = true ↔ b ∈ tbl := by
  simp [beqBytes_eq_beq]

theorem mergeN_perm (f : Nat) (xs ys : List Nat) : (mergeN f xs ys).Perm (xs ++ ys) := by
  fun_induction mergeN f xs ys with
  | case1 | case2 => exact .refl _
  | case3 => simp
  | case4 _ x _ _ _ _ ih => exact ih.cons x
  | case5 _ _ _ y _ _ ih => exact (ih.cons y).trans List.perm_middle.symm

theorem splitN_perm (l : List Nat) : ((splitN l).1 ++ (splitN l).2).Perm l := by
  fun_induction splitN l with
  | case1 | case2 => exact .refl _
  | case3 x y _ _ ih => exact (List.perm_middle.trans (ih.cons y)).cons x

theorem msortN_perm (f : Nat) (l : List Nat) : (msortN f l).Perm l := by
  fun_induction msortN f l with
  | case1 | case2 | case3 => exact .refl _
  | case4 _ l _ _ _ ih₁ ih₂ => exact (mergeN_perm _ _ _).trans ((ih₁.append ih₂).trans (splitN_perm l))

theorem pairwise_cons_of_trans {α} {R : α → α → Prop} {a b : α} {l : List α} (hab : R a b) (h : (b :: l).Pairwise R)
    (tr : ∀ {a b c}, R a b → R b c → R a c) : (a :: b :: l).Pairwise R :=
  List.pairwise_cons.mpr ⟨List.forall_mem_cons.mpr ⟨hab, fun _ hz => tr hab (List.rel_of_pairwise_cons h hz)⟩, h⟩

theorem strictAsc_pairwise : ∀ (l : List Nat), strictAsc l = true → l.Pairwise (· < ·)
  | [], _ => .nil
  | [_], _ => List.pairwise_singleton _ _
  | x :: y :: r, h => by
    simp only [strictAsc, Bool.and_eq_true, Nat.blt_eq] at h
    exact pairwise_cons_of_trans h.1 (strictAsc_pairwise (y :: r) h.2) Nat.lt_trans

theorem encodeLower_congr : ∀ {u v : Bytes}, lower u = lower v → encodeLower u = encodeLower v
  | [], [], _ => rfl
  | p :: ps, q :: qs, h => by
    simp only [lower, List.map_cons, List.cons.injEq] at h
    simp only [encodeLower, h.1, encodeLower_congr (u := ps) (v := qs) h.2]

theorem lowerC_lt (c : Nat) (h : c < 128) : lowerC c < 256 := by
  unfold lowerC; split <;> omega

theorem encodeLower_pos : ∀ (l : Bytes), 0 < encodeLower l
  | [] => Nat.one_pos
  | _ :: cs => Nat.lt_of_lt_of_le (Nat.mul_pos (by decide) (encodeLower_pos cs)) (Nat.le_add_left _ _)

theorem isAsciiId_cons {c : Nat} {cs : Bytes} : isAsciiId (c :: cs) = true ↔ c < 128 ∧ isAsciiId cs = true := by
  simp [isAsciiId]

/-- the converse of `encodeLower_congr`, which the lifting does not need: on ASCII ids the check rejects no list it need not -/
theorem encodeLower_inj : ∀ (a b : Bytes), isAsciiId a = true → isAsciiId b = true →
    encodeLower a = encodeLower b → lower a = lower b := by
  intro a
  induction a with
  | nil =>
    rintro (_ | ⟨y, ys⟩) _ _ h
    · rfl
    · have := encodeLower_pos ys; simp only [encodeLower] at h; omega
  | cons x xs ih =>
    rintro (_ | ⟨y, ys⟩) ha hb h
    · have := encodeLower_pos xs; simp only [encodeLower] at h; omega
    · rw [isAsciiId_cons] at ha hb
      have hx := lowerC_lt x ha.1
      have hy := lowerC_lt y hb.1
      simp only [encodeLower] at h
      -- base 256: the last digits agree, and so do the quotients
      rw [lower, List.map_cons, show lowerC x = lowerC y by omega]
      exact congrArg _ (ih ys ha.2 hb.2 (by omega))

def FoldDistinct (ids : List Bytes) : Prop := ids.Pairwise (fun a b => lower a ≠ lower b)

theorem pairwise_of_foldUnique {ids : List Bytes} (h : foldUnique ids = true) :
    ids.Pairwise (fun a b => encodeLower a ≠ encodeLower b) :=
  List.Pairwise.of_map encodeLower (fun _ _ hne => hne) ((msortN_perm 24 _).nodup_iff.mp ((strictAsc_pairwise _ h).imp Nat.ne_of_lt))

theorem foldDistinct_of_check (ids : List Bytes) (hu : foldUnique ids = true) : FoldDistinct ids :=
  (pairwise_of_foldUnique hu).imp fun hne heq => hne (encodeLower_congr heq)

theorem nodup_of_foldUnique {ids : List Bytes} (h : foldUnique ids = true) : ids.Nodup :=
  (pairwise_of_foldUnique h).imp fun hne heq => hne (congrArg encodeLower heq)

theorem foldDistinct_inj {l : List Bytes} (hl : FoldDistinct l) {x y : Bytes} (hx : x ∈ l) (hy : y ∈ l)
    (h : lower x = lower y) : x = y :=
  List.Pairwise.forall_of_forall_of_flip (R := fun a b => lower a = lower b → a = b) (fun _ _ _ => rfl)
    (hl.imp fun hne h => absurd h hne) (hl.imp fun hne h => absurd h.symm hne) hx hy h

theorem foldDistinct_append_left {a b : List Bytes} (h : FoldDistinct (a ++ b)) : FoldDistinct a :=
  (List.pairwise_append.mp h).1
theorem foldDistinct_append_right {a b : List Bytes} (h : FoldDistinct (a ++ b)) : FoldDistinct b :=
  (List.pairwise_append.mp h).2.1
theorem foldDistinct_cross {a b : List Bytes} (h : FoldDistinct (a ++ b)) :
    ∀ x ∈ a, ∀ y ∈ b, lower x ≠ lower y :=
  (List.pairwise_append.mp h).2.2

theorem lookup_some {tbl : List Bytes} {w c : Bytes} (h : lookup tbl w = some c) :
    c ∈ tbl ∧ lower c = lower w := by
  unfold lookup at h
  exact ⟨List.mem_of_find?_eq_some h, (foldEq_iff c w).mp (List.find?_some (p := fun l => foldEq l w) h)⟩

theorem lookup_none_iff {tbl : List Bytes} {w : Bytes} :
    lookup tbl w = none ↔ ∀ c ∈ tbl, lower c ≠ lower w := by
  simp only [lookup, List.find?_eq_none, foldEq_iff, ne_eq]

namespace C09
/-- the case-insensitive lookup depends only on the lower-casing of the word -/
theorem lookup_fold (tbl : List Bytes) (w w' : Bytes) (h : lower w = lower w') : lookup tbl w = lookup tbl w' := by
  unfold lookup
  congr 1
  funext l
  rw [Bool.eq_iff_iff, foldEq_iff, foldEq_iff, h]
end C09

theorem lookup_listed (tbl : List Bytes) (hd : FoldDistinct tbl) (c w : Bytes) (hc : c ∈ tbl) (hw : lower w = lower c) :
    lookup tbl w = some c := by
  cases h : lookup tbl w with
  | none => exact absurd hw.symm (lookup_none_iff.mp h c hc)
  | some c' =>
    obtain ⟨hc', heq⟩ := lookup_some h
    rw [foldDistinct_inj hd hc' hc (heq.trans hw)]

theorem licenseLookup_inv {w : Bytes} {t : Tok} (h : licenseLookup w = some t) :
    (∃ c, t = .lic c ∧ c ∈ Tables.active ∧ lower c = lower w) ∨
    (∃ c, t = .exc c ∧ c ∈ Tables.exceptions ∧ lower c = lower w) := by
  unfold licenseLookup at h
  split at h
  next c hc => exact .inl ⟨c, (Option.some.inj h).symm, lookup_some hc⟩
  · split at h
    next c hc => exact .inr ⟨c, (Option.some.inj h).symm, lookup_some hc⟩
    · cases h

theorem licenseLookup_eq_none {w : Bytes} :
    licenseLookup w = none ↔ lookup Tables.active w = none ∧ lookup Tables.exceptions w = none := by
  unfold licenseLookup
  cases lookup Tables.active w <;> cases lookup Tables.exceptions w <;> simp

/-- `beqBytes`, asking the numeric keys first.  Inside one `decide` the kernel evaluates the key of a table entry once and
    then pays one `Nat.beq` on literals for a failing comparison instead of unfolding `beqBytes`: rewriting a check with
    `← beqBytesK_eq` before `decide +kernel` changes its cost, not its value. -/
def beqBytesK (a b : Bytes) : Bool := Nat.beq (encodeLower a) (encodeLower b) && beqBytes a b

theorem beqBytesK_eq : beqBytesK = beqBytes := by
  funext a b
  cases h : beqBytes a b with
  | false => rw [beqBytesK, h, Bool.and_false]
  | true => rw [beqBytesK, h, beqBytes_eq h, Nat.beq_refl]; rfl

end Spdx
