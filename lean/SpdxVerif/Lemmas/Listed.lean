/-
Lemmas/Listed — the obligations on the three shipped lists that the scanner's theory rests on, decided by the kernel on the
regenerated tables, and what they mean for a listed id: the case-insensitive lookup finds it, in its own list only, and the
normalisation cascade reads it (and every case variant of it) as the token of that list.
-/
import SpdxVerif.Lemmas.Tables
import SpdxVerif.Lemmas.Scan

namespace Spdx.C12

/-- the three lists are pairwise disjoint and contain no two ids equal up to letter case (one check covers both) -/
theorem lists_fold_unique : foldUnique (Tables.active ++ Tables.deprecated ++ Tables.exceptions) = true := by
  decide +kernel

/-- every listed id is ASCII (so ASCII case folding is what `strings.EqualFold` does on them) -/
theorem lists_ascii : (Tables.active ++ Tables.deprecated ++ Tables.exceptions).all isAsciiId = true := by
  decide +kernel

end Spdx.C12

namespace Spdx.C09

theorem lists_fold_distinct : FoldDistinct (Tables.active ++ Tables.deprecated ++ Tables.exceptions) :=
  foldDistinct_of_check _ C12.lists_fold_unique

def lowerEndsWith (suf : Bytes) (w : Bytes) : Bool := (lower suf).isSuffixOf (lower w)

/-- no deprecated id ends, in any letter case, with `-only` or `-or-later`: the suffix steps of the normalisation
    cascade can never fire for a (case variant of a) deprecated id -/
def deprecatedHaveNoSuffix : Bool :=
  Tables.deprecated.all (fun w => !lowerEndsWith sufOnly w && !lowerEndsWith sufOrLater w)

theorem deprecated_have_no_suffix : deprecatedHaveNoSuffix = true := by decide +kernel

/-- the ids the claim is about are id-byte strings (the six deprecated `X+` ids contain `+`, are never produced by the
    scanner, and are reached through `X-or-later`) -/
def plainListed : Bool := (Tables.active ++ Tables.exceptions).all allId
theorem active_and_exceptions_are_id_bytes : plainListed = true := by decide +kernel

end Spdx.C09

namespace Spdx

def lowerStarts (p w : Bytes) : Bool := (lower p).isPrefixOf (lower w)

/-- begins, in no letter case, with an operator or a reference prefix, and begins with an id byte -/
def foldClean (w : Bytes) : Bool :=
  !lowerStarts [87,73,84,72] w && !lowerStarts [65,78,68] w && !lowerStarts [79,82] w &&
  !lowerStarts docRefPrefix w && !lowerStarts licRefPrefix w && (match w with | [] => false | c :: _ => isIdChar c)

theorem listed_foldClean : (Tables.active ++ Tables.deprecated ++ Tables.exceptions).all foldClean = true := by
  decide +kernel

theorem allId_listed {c : Bytes} (h : c ∈ Tables.active ++ Tables.exceptions) : allId c = true :=
  List.all_eq_true.mp C09.active_and_exceptions_are_id_bytes c h

theorem active_distinct : FoldDistinct Tables.active :=
  foldDistinct_append_left (foldDistinct_append_left C09.lists_fold_distinct)
theorem deprecated_distinct : FoldDistinct Tables.deprecated :=
  foldDistinct_append_right (foldDistinct_append_left C09.lists_fold_distinct)
theorem exceptions_distinct : FoldDistinct Tables.exceptions :=
  foldDistinct_append_right C09.lists_fold_distinct

theorem lookup_active_none {c w : Bytes} (hc : c ∈ Tables.deprecated ++ Tables.exceptions) (hw : lower w = lower c) :
    lookup Tables.active w = none :=
  lookup_none_iff.mpr fun a ha =>
    hw ▸ foldDistinct_cross (List.append_assoc .. ▸ C09.lists_fold_distinct) a ha c hc

theorem lookup_exceptions_none {c w : Bytes} (hc : c ∈ Tables.active ++ Tables.deprecated) (hw : lower w = lower c) :
    lookup Tables.exceptions w = none :=
  lookup_none_iff.mpr fun e he => hw ▸ (foldDistinct_cross C09.lists_fold_distinct c hc e he).symm

theorem licenseLookup_active {c : Bytes} (h : c ∈ Tables.active) : licenseLookup c = some (.lic c) := by
  simp [licenseLookup, lookup_listed _ active_distinct c c h rfl]

theorem licenseLookup_exception {c : Bytes} (h : c ∈ Tables.exceptions) : licenseLookup c = some (.exc c) := by
  simp [licenseLookup, lookup_active_none (List.mem_append_right _ h) rfl, lookup_listed _ exceptions_distinct c c h rfl]

theorem normCore_active {c : Bytes} (h : c ∈ Tables.active) (np : Bool) : normCore c np = some ([.lic c], false) :=
  normCore_self (licenseLookup_active h) np

theorem normCore_exception {c : Bytes} (h : c ∈ Tables.exceptions) (np : Bool) : normCore c np = some ([.exc c], false) :=
  normCore_self (licenseLookup_exception h) np

theorem lowerEndsWith_of_suffix (suf w : Bytes) (h : suf.isSuffixOf w = true) : C09.lowerEndsWith suf w = true :=
  List.isSuffixOf_iff_suffix.mpr ((List.isSuffixOf_iff_suffix.mp h).map lowerC)

theorem lower_append (a b : Bytes) : lower (a ++ b) = lower a ++ lower b := List.map_append

theorem stripSuffix_none_of_lower {w suf : Bytes} (h : C09.lowerEndsWith suf w = false) : stripSuffix? w suf = none :=
  if_neg fun hs => by rw [lowerEndsWith_of_suffix suf w hs] at h; cases h

theorem lowerEndsWith_congr {suf w w' : Bytes} (h : lower w = lower w') :
    C09.lowerEndsWith suf w = C09.lowerEndsWith suf w' := by
  unfold C09.lowerEndsWith; rw [h]

theorem lowerEndsWith_append (x suf : Bytes) : C09.lowerEndsWith suf (x ++ suf) = true :=
  lowerEndsWith_of_suffix suf _ (List.isSuffixOf_iff_suffix.mpr (List.suffix_append x suf))

theorem lowerEndsWith_of_strip {w suf v : Bytes} (h : stripSuffix? w suf = some v) : C09.lowerEndsWith suf w = true := by
  rw [stripSuffix_some_iff.mp h]; exact lowerEndsWith_append v suf

theorem not_suffix_of_lower {suf w : Bytes} (h : C09.lowerEndsWith suf w = false) : suf.isSuffixOf w = false :=
  Bool.eq_false_iff.mpr fun hs => Bool.eq_false_iff.mp h (lowerEndsWith_of_suffix suf w hs)

theorem not_only_and_orLater {w : Bytes} (h1 : C09.lowerEndsWith sufOnly w = true)
    (h2 : C09.lowerEndsWith sufOrLater w = true) : False := by
  unfold C09.lowerEndsWith at h1 h2
  rw [List.isSuffixOf_iff_suffix] at h1 h2
  rcases List.suffix_or_suffix_of_suffix h1 h2 with h | h <;> revert h <;> decide

theorem lowerEndsWith_of_lower_eq (suf a x : Bytes) (h : lower a = lower (x ++ suf)) :
    C09.lowerEndsWith suf a = true ∧ lower (a.take (a.length - suf.length)) = lower x := by
  refine ⟨(lowerEndsWith_congr h).trans (lowerEndsWith_append x suf), ?_⟩
  have hl : a.length - suf.length = (lower x).length := by
    have := congrArg List.length h
    simp only [lower, List.length_map, List.length_append] at this ⊢
    omega
  rw [lower, List.map_take, ← lower, h, lower_append, hl, List.take_left]

theorem C09.licenseLookup_fold (w w' : Bytes) (h : lower w = lower w') : licenseLookup w = licenseLookup w' := by
  unfold licenseLookup
  rw [lookup_fold Tables.active w w' h, lookup_fold Tables.exceptions w w' h]

theorem deprecated_no_suffix {c w : Bytes} (h : c ∈ Tables.deprecated) (hw : lower w = lower c) :
    stripSuffix? w sufOnly = none ∧ stripSuffix? w sufOrLater = none := by
  have hno := List.all_eq_true.mp C09.deprecated_have_no_suffix c h
  simp only [C09.lowerEndsWith, ← hw, Bool.and_eq_true, Bool.not_eq_true'] at hno
  exact ⟨stripSuffix_none_of_lower hno.1, stripSuffix_none_of_lower hno.2⟩

/-- of the steps before the deprecated lookup only the one for a following `+` can answer -/
theorem normCore_deprecated_variant {c w : Bytes} (h : c ∈ Tables.deprecated) (hw : lower w = lower c) (np : Bool) :
    normCore w np = match (if np then licenseLookup (w ++ sufOrLater) else none) with
      | some t => some ([t], true)
      | none => some ([.lic c], false) := by
  have hl : licenseLookup w = none := licenseLookup_eq_none.mpr
    ⟨lookup_active_none (List.mem_append_left _ h) hw, lookup_exceptions_none (List.mem_append_right _ h) hw⟩
  simp only [normCore, hl, deprecated_no_suffix h hw, Option.bind_none, lookup_listed _ deprecated_distinct c w h hw]
  rfl

theorem normCore_deprecated {c : Bytes} (h : c ∈ Tables.deprecated) : normCore c false = some ([.lic c], false) := by
  simpa using normCore_deprecated_variant h rfl false

theorem normCore_caseVariant (w w' : Bytes) (np : Bool) (hw : w ∈ Tables.active ++ Tables.deprecated ++ Tables.exceptions)
    (h : lower w' = lower w) : normCore w' np = normCore w np := by
  have hll : licenseLookup w' = licenseLookup w := C09.licenseLookup_fold w' w h
  simp only [List.mem_append] at hw
  rcases hw with (hact | hdep) | hexc
  · rw [normCore_self (hll.trans (licenseLookup_active hact)), normCore_active hact]
  · rw [normCore_deprecated_variant hdep h, normCore_deprecated_variant hdep rfl,
      C09.licenseLookup_fold (w' ++ sufOrLater) (w ++ sufOrLater) (by rw [lower_append, lower_append, h])]
  · rw [normCore_self (hll.trans (licenseLookup_exception hexc)), normCore_exception hexc]

end Spdx
