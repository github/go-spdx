/-
Lemmas/OnlySpelling — `X` and `X-only` (C08): whenever both are recognised they are read as single licence tokens whose
ids sit at the same position of the range table (`IdEquiv`), or as the very same token (`normCore_only`); that a listed
`X-only` shares the position of a listed `X` is the table obligation `only_bases_ok`.
-/
import SpdxVerif.Lemmas.Interchange
namespace Spdx

def posEqSome (a b : Bytes) : Bool :=
  match pos a, pos b with
  | some (i, j), some (k, l) => Nat.beq i k && Nat.beq j l
  | _, _ => false

/-- table obligation: for every active id `B-only` (suffix in any letter case), `B` is not an exception id, carries no
    further suffix, and if `B` is itself a listed license id (in any letter case) it shares `B-only`'s position in the
    range table; no exception id ends in `-only` -/
def onlyBasesOK : Bool :=
  Tables.active.all (fun c =>
    if C09.lowerEndsWith sufOnly c then
      let b := c.take (c.length - sufOnly.length)
      Tables.exceptions.all (fun x => !foldEq x b) && !C09.lowerEndsWith sufOnly b && !C09.lowerEndsWith sufOrLater b &&
      (match lookup Tables.active b with
       | some d => posEqSome c d
       | none => match lookup Tables.deprecated b with
         | some d => posEqSome c d
         | none => true)
    else true) &&
  Tables.exceptions.all (fun c => !C09.lowerEndsWith sufOnly c)

theorem only_bases_ok : onlyBasesOK = true := by decide +kernel

theorem posEqSome_iff {a b : Bytes} : posEqSome a b = true ↔ ∃ p, pos a = some p ∧ pos b = some p := by
  unfold posEqSome
  cases pos a <;> cases pos b <;> simp [Prod.ext_iff]

theorem posEqSome_symm (a b : Bytes) : posEqSome a b = posEqSome b a := by
  rw [Bool.eq_iff_iff, posEqSome_iff, posEqSome_iff]
  exact ⟨fun ⟨p, h1, h2⟩ => ⟨p, h2, h1⟩, fun ⟨p, h1, h2⟩ => ⟨p, h2, h1⟩⟩

/-- two licence ids that matching cannot tell apart -/
def IdEquiv (a b : Bytes) : Prop :=
  a = b ∨ (posEqSome a b = true ∧ sufOrLater.isSuffixOf a = false ∧ sufOrLater.isSuffixOf b = false)

theorem licenseLookup_only {x : Bytes} {t : Tok} (h : licenseLookup (x ++ sufOnly) = some t) :
    ∃ c, t = .lic c ∧ c ∈ Tables.active ∧ lower c = lower (x ++ sufOnly) := by
  rcases licenseLookup_inv h with h | ⟨c, -, hm, hl⟩
  · exact h
  · have := List.all_eq_true.mp (Bool.and_eq_true_iff.mp only_bases_ok).2 c hm
    rw [(lowerEndsWith_of_lower_eq sufOnly c x hl).1] at this; cases this

theorem only_base {c x : Bytes} (hc : c ∈ Tables.active) (hl : lower c = lower (x ++ sufOnly)) :
    (∀ e ∈ Tables.exceptions, lower e ≠ lower x) ∧ C09.lowerEndsWith sufOnly x = false ∧
    C09.lowerEndsWith sufOrLater x = false ∧
    ∀ d ∈ Tables.active ++ Tables.deprecated, lower d = lower x → posEqSome c d = true := by
  obtain ⟨hends, hbase⟩ := lowerEndsWith_of_lower_eq sufOnly c x hl
  have h := List.all_eq_true.mp (Bool.and_eq_true_iff.mp only_bases_ok).1 c hc
  simp only [hends, ↓reduceIte, Bool.and_eq_true, Bool.not_eq_true', List.all_eq_true, C09.lookup_fold _ _ _ hbase,
    lowerEndsWith_congr hbase] at h
  obtain ⟨⟨⟨hnx, hno⟩, hnl⟩, hpos⟩ := h
  refine ⟨fun e he heq => ?_, hno, hnl, fun d hd hdx => ?_⟩
  · have := hnx e he
    rw [(foldEq_iff _ _).mpr (heq.trans hbase.symm)] at this; cases this
  · rcases List.mem_append.mp hd with hda | hdd
    · rwa [lookup_listed _ active_distinct d x hda hdx.symm] at hpos
    · rwa [lookup_active_none (List.mem_append_left _ hdd) hdx.symm,
        lookup_listed _ deprecated_distinct d x hdd hdx.symm] at hpos

theorem normCore_only (x : Bytes) (t1 t2 : List Tok) (k1 k2 : Bool)
    (h1 : normCore x false = some (t1, k1)) (h2 : normCore (x ++ sufOnly) false = some (t2, k2)) :
    k1 = false ∧ k2 = false ∧
    ∃ ta tb, t1 = [ta] ∧ t2 = [tb] ∧ (ta = tb ∨ ∃ a b, ta = .lic a ∧ tb = .lic b ∧ IdEquiv a b) := by
  cases normCore_inv h2 with
  | @self t' ht' =>
    -- `X-only` is itself listed, as an active id `c`; `only_base` speaks of `X`
    obtain ⟨c, rfl, hcm, hcl⟩ := licenseLookup_only ht'
    obtain ⟨hnx, hxno, hxnl, hpos⟩ := only_base hcm hcl
    have hcsuf : C09.lowerEndsWith sufOrLater c = false := Bool.eq_false_iff.mpr fun h =>
      not_only_and_orLater (lowerEndsWith_of_lower_eq sufOnly c x hcl).1 h
    -- `X` is then read through the active or the deprecated list, as an id `d`, which shares `c`'s position
    obtain ⟨d, hd, hdl, rfl, rfl⟩ :
        ∃ d ∈ Tables.active ++ Tables.deprecated, lower d = lower x ∧ t1 = [.lic d] ∧ k1 = false := by
      cases normCore_inv h1 with
      | self ht =>
        rcases licenseLookup_inv ht with ⟨d, rfl, hdm, hdl⟩ | ⟨d, -, hdm, hdl⟩
        · exact ⟨d, List.mem_append_left _ hdm, hdl, rfl, rfl⟩
        · exact absurd hdl (hnx d hdm)
      | only _ hs _ => rw [lowerEndsWith_of_strip hs] at hxno; cases hxno
      | later _ _ hnp _ => cases hnp
      | plus _ _ _ hs _ => rw [lowerEndsWith_of_strip hs] at hxnl; cases hxnl
      | deprecated _ _ _ _ hD =>
        obtain ⟨hdm, hdl⟩ := lookup_some hD
        exact ⟨_, List.mem_append_right _ hdm, hdl, rfl, rfl⟩
    exact ⟨rfl, rfl, _, _, rfl, rfl, Or.inr ⟨d, c, rfl, rfl, Or.inr ⟨(posEqSome_symm d c).trans (hpos d hd hdl),
      not_suffix_of_lower ((lowerEndsWith_congr hdl).trans hxnl), not_suffix_of_lower hcsuf⟩⟩⟩
  | @only _ t _ hs ht =>
    -- `X-only` is not listed and `X` is an active / exception id: the same token
    rw [stripSuffix_append] at hs; cases hs
    rw [normCore_self ht] at h1
    cases h1
    exact ⟨rfl, rfl, _, _, rfl, rfl, Or.inl rfl⟩
  | later _ _ hnp _ => cases hnp
  | plus _ _ _ hs _ => exact (not_only_and_orLater (lowerEndsWith_append x sufOnly) (lowerEndsWith_of_strip hs)).elim
  | deprecated _ _ _ _ hd =>
    obtain ⟨hm, hl⟩ := lookup_some hd
    have := (deprecated_no_suffix hm hl.symm).1
    rw [stripSuffix_append] at this; cases this

end Spdx
