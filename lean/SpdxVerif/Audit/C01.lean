import SpdxVerif.Props.C01
import SpdxVerif.Lemmas.Outcome
import SpdxVerif.Props.Consts
import SpdxVerif.Props.C01Text
import SpdxVerif.Props.C01Heap
#print axioms Spdx.C01.verdict_eq_eval
#print axioms Spdx.C01.verdictBy_eq_eval
#print axioms Spdx.C01.verdict_iff_alternative_covered
#print axioms Spdx.C01.verdict_and
#print axioms Spdx.C01.verdict_or
#print axioms Spdx.C01.satisfies_spec
#print axioms Spdx.ConstsPin.expandAnd_ints
#print axioms Spdx.C01.parse_rendered
#print axioms Spdx.C01.canonical_rewrite
#print axioms Spdx.C01.satisfies_rendered
#print axioms Spdx.C01.or_and_text
#print axioms Spdx.C01.and_or_text
#print axioms Spdx.C01.paren_or_and_text
#print axioms Spdx.C07.satisfies_eq
#print axioms Spdx.C01.heap_expand_refines
#print axioms Spdx.C01.heap_expand_refines_any_heap
#print axioms Spdx.C01.heap_expand_separated
#print axioms Spdx.C01.heap_expand_sorted_refines
#print axioms Spdx.C01.heap_expand_eq_expand
#print axioms Spdx.C01.expansion_allocs_exact
