/-
Props/C14Heap — C14 at the level of Go's slices: how many backing arrays one run of the expansion allocates.

`cost_inputs_bounded` (Props/C14Cost) bounds what the cost model multiplies; here the cost is counted on the heap model
itself (Model/GoHeap): every `[]*node{term}`, every `make`, every `append` that has to copy allocates one array.
`appendTerms`' `make([]*node, 0, len(l)+len(r))` is sized right (neither append into `tmp` reallocates: `Room`), so it
allocates exactly one array per alternative; `mergeTerms` allocates at most one per append.  Hence, for every growth policy,
the expansion allocates at most `allocBound n` arrays — one per term and one per alternative of every AND node — and
`allocBound n + alts n ≤ 2 · terms · alts`: the heap-level cost is polynomial exactly when `alts` is (C14Poly).
-/
import SpdxVerif.Lemmas.GoHeap
import SpdxVerif.Props.C14
namespace Spdx.H

theorem read_length_le (h : Heap) (s : Sl) : (read h s).length ≤ s.len := List.length_take_le ..

theorem appendG_length_le (grow : Nat → Nat → Nat) (h : Heap) (l : Sl) (rc : List Node) :
    (appendG grow h l rc).2.length ≤ h.length + 1 := by
  unfold appendG; split
  · rw [List.length_set]; exact Nat.le_succ _
  · exact Nat.le_of_eq (alloc_length ..)

theorem capOf_of_get {h : Heap} {a : Nat} {x : Arr} (e : h[a]? = some x) : capOf h a = x.cap := by
  unfold capOf; rw [e]

def Room (h : Heap) (s : Sl) (k : Nat) : Prop := s.arr < h.length ∧ s.len + k ≤ capOf h s.arr

theorem alloc_room (h : Heap) (c : Nat) : Room (alloc h [] c).2 (alloc h [] c).1 c := by
  simp [Room, alloc, capOf]

theorem appendG_room {grow : Nat → Nat → Nat} {h : Heap} {s : Sl} {k : Nat} (hr : Room h s k) (rc : List Node) (k' : Nat)
    (hk : rc.length + k' ≤ k) :
    (appendG grow h s rc).2.length = h.length ∧ Room (appendG grow h s rc).2 (appendG grow h s rc).1 k' := by
  obtain ⟨ha, hc⟩ := hr
  unfold appendG
  rw [if_pos (by omega)]
  refine ⟨List.length_set, by rw [List.length_set]; exact ha, ?_⟩
  rw [capOf_of_get (List.getElem?_set_self ha)]
  show s.len + rc.length + k' ≤ capOf h s.arr
  omega

/-- `tmp := make([]*node, 0, len(l)+len(r))` has room for `l` and then for `r`: one array per alternative of `left` -/
theorem appendInnerH_allocs (grow : Nat → Nat → Nat) (r : Sl) (ls : List Sl) (h : Heap) :
    (appendInnerH grow r ls h).2.length = h.length + ls.length := by
  induction ls generalizing h with
  | nil => rfl
  | cons l ls ih =>
    have z := alloc_room h (l.len + r.len)
    have zl := alloc_length h [] (l.len + r.len)
    show (appendInnerH grow r ls _).2.length = _
    generalize alloc h [] (l.len + r.len) = p0 at z zl ⊢
    have a := appendG_room (grow := grow) z (read p0.2 l) r.len (Nat.add_le_add_right (read_length_le ..) _)
    generalize appendG grow p0.2 p0.1 (read p0.2 l) = p1 at a ⊢
    have b := appendG_room (grow := grow) a.2 (read p1.2 r) 0 (read_length_le ..)
    rw [ih, b.1, a.1, zl, List.length_cons]
    omega

/-- `results[j] = append(l, r...)` allocates at most once -/
theorem mergeInnerH_allocs (grow : Nat → Nat → Nat) (r : Sl) (ls : List Sl) (h : Heap) :
    (mergeInnerH grow r ls h).2.length ≤ h.length + ls.length ∧ (mergeInnerH grow r ls h).1.length = ls.length := by
  induction ls generalizing h with
  | nil => exact ⟨Nat.le_refl _, rfl⟩
  | cons l ls ih =>
    have a := appendG_length_le grow h l (read h r)
    obtain ⟨b, c⟩ := ih (appendG grow h l (read h r)).2
    refine ⟨?_, congrArg (· + 1) c⟩
    show (mergeInnerH grow r ls _).2.length ≤ h.length + (ls.length + 1)
    omega

theorem mergeTermsH_allocs (grow : Nat → Nat → Nat) (ls rs : List Sl) (h : Heap) :
    (mergeTermsH grow ls rs h).2.length ≤ h.length + ls.length * rs.length := by
  induction rs generalizing ls h with
  | nil => exact Nat.le_refl _
  | cons r rs ih =>
    obtain ⟨a, b⟩ := mergeInnerH_allocs grow r ls h
    have c := ih (mergeInnerH grow r ls h).1 (mergeInnerH grow r ls h).2
    rw [b] at c
    show (mergeTermsH grow _ rs _).2.length ≤ _
    rw [List.length_cons, Nat.mul_succ]
    omega

/-- the number of arrays one run of the expansion may allocate: one per term, and one per alternative of every AND -/
def allocBound : Node → Nat
  | .lic .. => 1
  | .ref .. => 1
  | .and l r => allocBound l + allocBound r + (expandTerm l).length * (expandTerm r).length
  | .or l r => allocBound l + allocBound r

end Spdx.H

namespace Spdx.C14
open Spdx.H

/-- `appendTerms` allocates exactly one array per alternative it returns: `tmp` never reallocates -/
theorem heap_appendTerms_allocs (grow : Nat → Nat → Nat) (ls rs : List Sl) (h : Heap) :
    (appendTermsH grow ls rs h).2.length = h.length + ls.length * rs.length := by
  induction rs generalizing h with
  | nil => rfl
  | cons r rs ih =>
    show (appendTermsH grow ls rs _).2.length = _
    rw [ih, appendInnerH_allocs, List.length_cons, Nat.mul_succ]
    omega

/-- the expansion allocates at most `allocBound n` arrays, whatever the growth policy and the starting heap -/
theorem heap_allocs_le (grow : Nat → Nat → Nat) (n : Node) (h : Heap) :
    (expandTermH grow n h).2.length ≤ h.length + allocBound n := by
  induction n generalizing h with
  | lic | ref => exact Nat.le_of_eq (alloc_length h _ 1)
  | or l r ihl ihr =>
    have a := ihl h
    have b := ihr (expandTermH grow l h).2
    show (expandTermH grow r _).2.length ≤ h.length + (allocBound l + allocBound r)
    omega
  | and l r ihl ihr =>
    have a := ihl h
    have b := ihr (expandTermH grow l h).2
    show (if _ then appendTermsH grow _ _ _ else mergeTermsH grow _ _ _).2.length ≤
      h.length + (allocBound l + allocBound r + (expandTerm l).length * (expandTerm r).length)
    -- `allocBound` counts alternatives of the functional expansion, the loops count headers: the same number
    rw [← (expandTermH_run grow l h).length_eq, ← (expandTermH_run grow r (expandTermH grow l h).2).length_eq]
    split
    · rw [heap_appendTerms_allocs]; omega
    · exact Nat.le_trans (mergeTermsH_allocs grow _ _ _) (by omega)

theorem alts_pos (n : Node) : 1 ≤ alts n :=
  expandTerm_length n ▸ List.length_pos_iff.mpr (expandTerm_ne_nil n)

private theorem scale {b a l m : Nat} (h : b + a ≤ 2 * l * a) (hm : 1 ≤ m) : b + a * m ≤ 2 * l * (a * m) :=
  calc b + a * m ≤ b * m + a * m := Nat.add_le_add_right (Nat.le_mul_of_pos_right _ hm) _
    _ = (b + a) * m := (Nat.add_mul ..).symm
    _ ≤ 2 * l * a * m := Nat.mul_le_mul_right _ h
    _ = 2 * l * (a * m) := Nat.mul_assoc ..

/-- closed form: arrays allocated + alternatives ≤ 2 · terms · alternatives -/
theorem allocBound_le (n : Node) : allocBound n + alts n ≤ 2 * leafCount n * alts n := by
  induction n with
  | lic | ref => exact Nat.le_refl 2
  | and l r ihl ihr =>
    have hl := scale ihl (alts_pos r)
    have hr := scale ihr (alts_pos l)
    rw [Nat.mul_comm (alts r)] at hr
    rw [allocBound, alts, leafCount, expandTerm_length, expandTerm_length, Nat.mul_add, Nat.add_mul]
    omega
  | or l r ihl ihr =>
    -- the cross terms `2·terms l·alts r`, `2·terms r·alts l` are to spare
    simp only [allocBound, alts, leafCount, Nat.mul_add, Nat.add_mul]
    omega

/-- the heap-level cost in the quantities of the cost model: at most `2 · terms · alternatives` arrays -/
theorem heap_allocs_le_terms_alts (grow : Nat → Nat → Nat) (n : Node) :
    (expandTermH grow n []).2.length ≤ 2 * leafCount n * alts n := by
  have a := heap_allocs_le grow n []
  have b := allocBound_le n
  simp only [List.length_nil] at a
  omega

end Spdx.C14
