/-
C13 — calls are pure: no argument mutation, no history, safe under concurrency.

What Lean carries: (1) the premises — closed facts about the regenerated syntactic census of the source, decided by the
kernel; (2) a generic theorem: workers that only READ a shared store and write worker-local state compute, under every
schedule, exactly what they compute alone, and the store is unchanged; (3) the model's API functions are functions of
their arguments.  What it cannot carry (Go memory model, soundness of the syntactic census) is named in DESIGN.md and
covered dynamically by the harness (race detector, shuffled histories, argument snapshots, redirected stdout).
-/
import SpdxVerif.Spec.Census
namespace Spdx.C13

/-! ### (1) premises, from the census of the tree under check -/
theorem no_shared_mutable_state : noSharedMutableState = true := by decide +kernel
theorem no_concurrency_primitives : noConcurrencyPrimitives = true := by decide +kernel
theorem no_output : noOutput = true := by decide +kernel
theorem caller_slices_untouched : callerSlicesUntouched = true := by decide +kernel

/-! ### (2) schedule independence for read-only sharing -/

/-- a worker: its local state evolves by a step function that may read the shared store -/
structure System (Store Local : Type) where
  step : Store → Local → Local

variable {Store Local : Type}

/-- run a schedule (a list of worker indices); an out-of-range index is a no-op -/
def run (sys : System Store Local) (store : Store) : List Nat → List Local → List Local
  | [], ls => ls
  | i :: sched, ls => run sys store sched (ls.modify i (sys.step store))

def iter (f : Local → Local) : Nat → Local → Local
  | 0, x => x
  | n+1, x => iter f n (f x)

theorem run_length (sys : System Store Local) (store : Store) (sched : List Nat) (ls : List Local) :
    (run sys store sched ls).length = ls.length := by
  induction sched generalizing ls with
  | nil => rfl
  | cons i s ih => simp [run, ih]

/-- **schedule independence**: after ANY schedule, worker `i` is in the state it reaches by running alone for as many
    steps as the schedule gave it; the shared store is never written (it is not part of the evolving state at all) -/
theorem schedule_independent (sys : System Store Local) (store : Store) (sched : List Nat) (ls : List Local) (i : Nat) :
    (run sys store sched ls)[i]? = (ls[i]?).map (iter (sys.step store) (sched.count i)) := by
  induction sched generalizing ls with
  | nil => exact (Option.map_id' ..).symm
  | cons j s ih =>
    -- a step of worker `j` changes entry `j` only, and there it is one more iteration: `iter f (n+1) = iter f n ∘ f`
    rw [run, ih, List.getElem?_modify, List.count_cons]
    by_cases hij : j = i
    · subst hij; simp [iter, Function.comp_def]
    · simp [hij]

/-- two schedules that give every worker the same number of steps end in the same state -/
theorem schedules_agree (sys : System Store Local) (store : Store) (s₁ s₂ : List Nat) (ls : List Local)
    (h : ∀ i, s₁.count i = s₂.count i) : run sys store s₁ ls = run sys store s₂ ls := by
  apply List.ext_getElem?
  intro i
  rw [schedule_independent, schedule_independent, h]

/-! ### (3) the model's entry points are functions of their arguments: equal arguments, equal results, whatever
    was computed before (there is no state to carry) -/
theorem satisfies_deterministic (e e' : Bytes) (l l' : List Bytes) (he : e = e') (hl : l = l') :
    satisfies e l = satisfies e' l' := by subst he; subst hl; rfl
theorem extract_deterministic (e e' : Bytes) (he : e = e') : extract e = extract e' := by subst he; rfl
theorem validate_deterministic (l l' : List Bytes) (hl : l = l') : validate l = validate l' := by subst hl; rfl

/-- non-vacuity: three workers, an interleaved schedule -/
example : run ⟨fun (s : Nat) (x : Nat) => x + s⟩ 5 [0, 2, 1, 0, 2, 2] [10, 20, 30] = [20, 25, 45] := by decide

end Spdx.C13
