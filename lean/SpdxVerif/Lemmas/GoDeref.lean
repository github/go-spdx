/-
Lemmas/GoDeref — only terms (never expression nodes) reach the unguarded dereferences behind the parser.
-/
import SpdxVerif.Model.GoDeref
import SpdxVerif.Lemmas.AllowedList
import SpdxVerif.Lemmas.Out
namespace Spdx.G

theorem mapM'_ok {α β} (f : α → Out β) (g : α → β) (l : List α) (h : ∀ x ∈ l, f x = .ok (g x)) : mapM' f l = .ok (l.map g) := by
  induction l with
  | nil => rfl
  | cons x xs ih =>
    simp only [mapM', h x (by simp), Out.bind, ih (fun y hy => h y (List.mem_cons_of_mem _ hy)), List.map_cons]

theorem renderG_leaf (n : Node) (h : n.isLeaf = true) : renderG n = .ok (render n) := by simp [renderG, h]

theorem keysG_ok {l : List Node} (h : ∀ x ∈ l, x.isLeaf = true) : keysG l = .ok (l.map render) :=
  mapM'_ok renderG render l fun x hx => renderG_leaf x (h x hx)

theorem mapM'_keysG_ok {ll : List (List Node)} (h : ∀ x ∈ ll.flatten, x.isLeaf = true) :
    mapM' keysG ll = .ok (ll.map fun part => part.map render) :=
  mapM'_ok keysG _ ll fun part hp => keysG_ok fun x hx => h x (List.mem_flatten.mpr ⟨part, hp, hx⟩)

theorem flatten_expandTerm_leaves (n : Node) : ∀ x ∈ (expandTerm n).flatten, x.isLeaf = true :=
  fun x hx => leaves_isLeaf n x ((mem_flatten_expandTerm n x).mp hx)

theorem flatten_expand_leaves (n : Node) : ∀ x ∈ (expand n).flatten, x.isLeaf = true :=
  fun x hx => leaves_isLeaf n x ((mem_flatten_expand n x).mp hx)

/-- the dereferences of `ExtractLicenses` never meet a nil string -/
theorem keysG_flatten_expand (n : Node) : keysG (expand n).flatten = .ok ((expand n).flatten.map render) :=
  keysG_ok (flatten_expand_leaves n)

theorem extractG_ok (n : Node) : extractG n = .ok (dedup [] ((expand n).flatten.map render)) := by
  rw [extractG, ← keysG, keysG_flatten_expand]
  rfl

/-- nor do the sorts of `Satisfies`, for the nodes `stringsToNodes` lets through -/
theorem satisfiesKeysG_ok (n : Node) (L : List Bytes) (A : List Node) (hA : toNodes L = .ok A) : satisfiesKeysG n A = .ok () := by
  unfold satisfiesKeysG
  rw [keysG_ok fun x hx => (toNodes_leafOK hA x hx).2, bind_ok, mapM'_keysG_ok (flatten_expand_leaves n)]
  rfl

end Spdx.G
