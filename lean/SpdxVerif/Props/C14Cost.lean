/-
C14 (cost model) — the quantities the cost model is stated over are bounded by the length of the text, EXCEPT the number
of alternatives: tokens ≤ bytes, terms ≤ tokens, materialised leaf slots ≤ alternatives × terms.  Together with
`expand_length` (alternatives = `alts n`) and `alts_andOfOrs` (2^k for a text of 17k−5 bytes) this is the precise sense in
which the cross product is the only super-polynomial factor of the algorithm as written (the known finding D8).
-/
import SpdxVerif.Props.C14
import SpdxVerif.Lemmas.LeafOK
namespace Spdx.C14

/-- one scanner iteration emits one token, or two after consuming at least nine bytes (`…-or-later`) -/
theorem step_tokens_le {s : Bytes} {off : Nat} {ts : List Tok} {r : Bytes} (h : step s off = .tok ts r) :
    ts.length + r.length ≤ s.length := by
  have hlt := step_length_lt h
  rcases lexeme_tok_inv (step_lexeme h nofun) with ⟨op, rfl, -, -⟩ | ⟨-, mk, id, -, rfl, -, -, -, -⟩ | ⟨w, rest, k, -, -, hs, -, hnc, hrr⟩
  · rw [List.length_singleton]; omega
  · rw [List.length_singleton]; omega
  · rcases normCore_length hnc with h1 | ⟨h2, h9⟩
    · rw [h1]; omega
    · have hr : r.length ≤ rest.length := by rw [hrr]; split <;> simp
      have hlen := congrArg List.length (spaces_split s)
      rw [hs, List.length_append, List.length_append] at hlen
      rw [h2]; simp only [sufOrLater, List.length_cons, List.length_nil] at h9; omega

/-- **tokens ≤ bytes** -/
theorem toks_length_le : ∀ (s : Bytes) (ts : List Tok), toks s = some ts → ts.length ≤ s.length := by
  refine toks_rec (fun _ _ => Nat.zero_le _) ?_
  intro s t1 r ts' hs _ ih
  have := step_tokens_le hs
  simp only [List.length_append]; omega

theorem scan_tokens_le (s : Bytes) (ts : List Tok) (h : scan s = .ok ts) : ts.length ≤ s.length :=
  toks_length_le s ts (toks_of_scan h)

/-- **terms ≤ tokens** -/
theorem leafCount_le_tokens {lv : Lvl} {ts : List Tok} {n : Node} (h : D lv ts n) : leafCount n ≤ ts.length := by
  induction h with
  | ref0 | ref1 | lic | licP | licW | licPW => simp [leafCount]
  | paren _ ih => simp only [List.length_cons, List.length_append, List.length_nil]; omega
  | and1 _ ih | or1 _ ih => exact ih
  | andC _ _ iha ihb | orC _ _ iha ihb => simp only [leafCount, List.length_append, List.length_cons]; omega

def slotsOf (ll : List (List Node)) : Nat := (ll.map List.length).sum

theorem alt_length_le (n : Node) : ∀ c ∈ expandTerm n, c.length ≤ leafCount n := by
  induction n with
  | lic | ref => intro c hc; cases List.mem_singleton.mp hc; exact Nat.le_refl _
  | and l r ihl ihr =>
    intro c hc
    simp only [expandTerm_and, appendTerms, List.mem_flatMap, List.mem_map] at hc
    obtain ⟨b, hb, a, ha, rfl⟩ := hc
    rw [List.length_append]; exact Nat.add_le_add (ihl a ha) (ihr b hb)
  | or l r ihl ihr =>
    intro c hc
    rw [expandTerm, List.mem_append] at hc
    rcases hc with h | h
    · exact Nat.le_trans (ihl c h) (Nat.le_add_right _ _)
    · exact Nat.le_trans (ihr c h) (Nat.le_add_left _ _)

theorem sum_map_le {α} (f : α → Nat) (b : Nat) : ∀ l : List α, (∀ x ∈ l, f x ≤ b) → (l.map f).sum ≤ l.length * b
  | [], _ => Nat.zero_le _
  | x :: l, h => by
    rw [List.map_cons, List.sum_cons, List.length_cons, Nat.succ_mul, Nat.add_comm]
    exact Nat.add_le_add (sum_map_le f b l fun y hy => h y (List.mem_cons_of_mem _ hy)) (h x List.mem_cons_self)

/-- **materialised leaf slots ≤ alternatives × terms** -/
theorem slots_le (n : Node) : slotsOf (expandTerm n) ≤ alts n * leafCount n :=
  expandTerm_length n ▸ sum_map_le _ _ _ (alt_length_le n)

/-- **the cost model's inputs are bounded by the text, except the number of alternatives** -/
theorem cost_inputs_bounded (s : Bytes) (n : Node) (h : parse s = .ok n) :
    leafCount n ≤ s.length ∧ slotsOf (expandTerm n) ≤ alts n * s.length ∧ (expand n).length = alts n := by
  obtain ⟨ts, h1, h2⟩ := parse_iff_D.mp h
  have c : leafCount n ≤ s.length := Nat.le_trans (leafCount_le_tokens h2) (toks_length_le s ts h1)
  exact ⟨c, Nat.le_trans (slots_le n) (Nat.mul_le_mul_left _ c), expand_length n⟩

/-- in particular an OR-free expression (one alternative) costs at most `|s|` slots: linear -/
theorem and_only_linear (s : Bytes) (n : Node) (h : parse s = .ok n) (ha : alts n = 1) : slotsOf (expandTerm n) ≤ s.length := by
  simpa [ha] using (cost_inputs_bounded s n h).2.1

end Spdx.C14
