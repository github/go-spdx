/-
Lemmas/RangeTable — position order in the range table IS version order (`oracle_of_pos`), by an argument and with no sweep
over pairs of ids.  The table is a list of families, a family a list of version groups.  The table obligations of C11
(kernel-decided; none of them compares pairs of range ids) say that the live ids of a family carry one key, which no other
family has, and that its groups hold one version each, in ascending order; the version order is transitive, so the
versions of a family compare as the indices of their groups.  `pos` returns a place where the id is written, and an id is
written only once.
-/
import SpdxVerif.Lemmas.Version
import SpdxVerif.Lemmas.Tables
namespace Spdx.C11

/-! The table obligations.  `ranges_listed` and `coverage_complete` scan the id lists once for each entry: they ask the
numeric keys first (`beqBytesK`). -/

theorem ranges_listed : rangesListed = true := by
  unfold rangesListed listedLicense listedLicense.bytesIn'
  rw [← beqBytesK_eq]
  decide +kernel
theorem ranges_no_duplicates : rangesNoDup = true := by decide +kernel
theorem families_one_key : Tables.ranges.all familyOneKey = true := by decide +kernel
theorem family_keys_distinct : keysDistinct = true := by decide +kernel
theorem families_ascending : Tables.ranges.all familyAscending = true := by decide +kernel
theorem coverage_complete : coverageComplete = true := by
  unfold coverageComplete optBytesEq
  rw [← beqBytesK_eq]
  decide +kernel

/-- every live entry is found by the range lookup at the very position where it is written:
    `pos` (first occurrence) = (family index, group index) -/
def positionsExact : Bool :=
  let rec fam (fs : List (List (List Bytes))) (i : Nat) : Bool :=
    match fs with
    | [] => true
    | f :: fs' =>
      let rec grp (gs : List (List Bytes)) (j : Nat) : Bool :=
        match gs with
        | [] => true
        | g :: gs' => g.all (fun x => !isLive x || (match pos x with | some (a, b) => Nat.beq a i && Nat.beq b j | none => false)) && grp gs' (j+1)
      grp f 0 && fam fs' (i+1)
  fam Tables.ranges 0

end Spdx.C11

namespace Spdx

theorem optBytesEq_some {k : Bytes} {o : Option Bytes} (h : optBytesEq (some k) o = true) : o = some k := by
  cases o with
  | none => cases h
  | some k' => rw [beqBytes_eq (a := k) (b := k') h]

def headKey (f : List (List Bytes)) : Option Bytes :=
  match (f.flatMap id).filter isLive with | x :: _ => famKey x | [] => none

theorem familyKeys_eq : familyKeys = Tables.ranges.map headKey := rfl

theorem familyOneKey_spec {f : List (List Bytes)} (h : familyOneKey f = true) :
    ∃ k, headKey f = some k ∧ ∀ g ∈ f, ∀ y ∈ g, isLive y = true → famKey y = some k := by
  unfold familyOneKey at h
  unfold headKey
  split at h
  · cases h
  next x xs hL =>
    rw [hL]
    simp only [Bool.and_eq_true, List.all_eq_true] at h
    obtain ⟨k, hk⟩ := Option.isSome_iff_exists.mp h.1
    refine ⟨k, hk, fun g hg y hy hl => ?_⟩
    have hy' : y ∈ x :: xs := hL ▸ List.mem_filter.mpr ⟨List.mem_flatMap.mpr ⟨g, hg, hy⟩, hl⟩
    rcases List.mem_cons.mp hy' with rfl | hy'
    · exact hk
    · exact optBytesEq_some (hk ▸ h.2 y hy')

theorem groupVer_some {g : List Bytes} {v : Ver} (h : groupVer g = some v) {y : Bytes} (hy : y ∈ g)
    (hl : isLive y = true) : verOf y = some v := by
  have hy' : y ∈ g.filter isLive := List.mem_filter.mpr ⟨hy, hl⟩
  -- `groupVer` has found a first live id `x`, with a version, with which every other live id agrees
  unfold groupVer at h
  split at h
  · cases h
  next x xs hL =>
    split at h
    · cases h
    next v' hx =>
      split at h
      next hall =>
        cases h
        rcases List.mem_cons.mp (hL ▸ hy') with rfl | hy'
        · exact hx
        · have hvy := List.all_eq_true.mp hall y hy'
          split at hvy
          next w hw => rw [hw, verCmp_eq (verEq_iff.mp hvy)]
          · cases hvy
      · cases h

theorem ascending_sorted : ∀ (l : List (Option Ver)), ascending l = true →
    ∃ vs : List Ver, l = vs.map some ∧ vs.Pairwise (fun v w => verCmp v w = .lt)
  | [], _ => ⟨[], rfl, .nil⟩
  | [some a], _ => ⟨[a], rfl, List.pairwise_singleton _ _⟩
  | some a :: some b :: r, h => by
    simp only [ascending, Bool.and_eq_true] at h
    obtain ⟨vs, hvs, hp⟩ := ascending_sorted (some b :: r) h.2
    cases vs with
    | nil => cases hvs
    | cons w vs =>
      cases hvs
      exact ⟨a :: b :: vs, rfl, pairwise_cons_of_trans (verLt_iff.mp h.1) hp verCmp_lt_trans⟩
  | none :: _, h | some _ :: none :: _, h => by simp [ascending] at h

theorem family_key {i : Nat} {f : List (List Bytes)} (hf : Tables.ranges[i]? = some f) :
    ∃ key, headKey f = some key ∧
      ∀ (j : Nat) g, f[j]? = some g → ∀ y ∈ g, isLive y = true → famKey y = some key := by
  obtain ⟨key, hkey, hall⟩ := familyOneKey_spec (List.all_eq_true.mp C11.families_one_key f (List.mem_of_getElem? hf))
  exact ⟨key, hkey, fun j g hg => hall g (List.mem_of_getElem? hg)⟩

theorem family_versions {i : Nat} {f : List (List Bytes)} (hf : Tables.ranges[i]? = some f) :
    ∃ vs : List Ver, vs.Pairwise (fun v w => verCmp v w = .lt) ∧
      ∀ (j : Nat) g, f[j]? = some g → ∀ y ∈ g, isLive y = true → ∃ v, vs[j]? = some v ∧ verOf y = some v := by
  obtain ⟨vs, hvs, hsorted⟩ :=
    ascending_sorted _ (List.all_eq_true.mp C11.families_ascending f (List.mem_of_getElem? hf))
  refine ⟨vs, hsorted, fun j g hg y hy hl => ?_⟩
  have hgv : (vs[j]?).map some = some (groupVer g) := by
    rw [← List.getElem?_map, ← hvs, List.getElem?_map, hg]; rfl
  obtain ⟨v, hv, hgv⟩ := Option.map_eq_some_iff.mp hgv
  exact ⟨v, hv, groupVer_some hgv.symm hy hl⟩

theorem pairwise_index_unique {α : Type} {R : α → α → Prop} {l : List α} (h : l.Pairwise R) {i j : Nat} {a b : α}
    (hi : l[i]? = some a) (hj : l[j]? = some b) (hab : ¬ R a b) (hba : ¬ R b a) : i = j := by
  rw [List.pairwise_iff_getElem] at h
  obtain ⟨hi', rfl⟩ := List.getElem?_eq_some_iff.mp hi
  obtain ⟨hj', rfl⟩ := List.getElem?_eq_some_iff.mp hj
  rcases Nat.lt_trichotomy i j with hlt | heq | hgt
  · exact (hab (h i j hi' hj' hlt)).elim
  · exact heq
  · exact (hba (h j i hj' hi' hgt)).elim

theorem index_unique_of_nodup_flatMap {α β : Type} {l : List α} {f : α → List β} (h : (l.flatMap f).Nodup)
    {i j : Nat} {a a' : α} (hi : l[i]? = some a) (hj : l[j]? = some a') {x : β} (hx : x ∈ f a) (hx' : x ∈ f a') :
    i = j :=
  pairwise_index_unique (List.pairwise_flatMap.mp h).2 hi hj (fun h => h x hx x hx' rfl) (fun h => h x hx' x hx rfl)

theorem headKey_inj {i k : Nat} {f f' : List (List Bytes)} {key : Bytes} (hf : Tables.ranges[i]? = some f)
    (hf' : Tables.ranges[k]? = some f') (hk : headKey f = some key) (hk' : headKey f' = some key) : i = k := by
  have hnd : (familyKeys.map (·.getD [])).Nodup := nodup_of_foldUnique C11.family_keys_distinct
  rw [familyKeys_eq, List.map_map] at hnd
  exact pairwise_index_unique hnd (a := key) (b := key) (by simp [hf, hk]) (by simp [hf', hk'])
    (fun h => h rfl) (fun h => h rfl)

theorem posIn_some : ∀ (fs : List (List (List Bytes))) (n : Nat) (x : Bytes) (i j : Nat), posIn fs n x = some (i, j) →
    ∃ i' f g, i = i' + n ∧ fs[i']? = some f ∧ f[j]? = some g ∧ x ∈ g
  | f :: fs, n, x, i, j, h => by
    unfold posIn at h
    split at h
    next j' hg =>
      cases h
      obtain ⟨hj, hx, -⟩ := List.findIdx?_eq_some_iff_getElem.mp hg
      exact ⟨0, f, f[j], (Nat.zero_add n).symm, rfl, List.getElem?_eq_getElem hj, List.contains_iff_mem.mp hx⟩
    · obtain ⟨i', f', g, hi, hf, hg', hx⟩ := posIn_some fs (n+1) x i j h
      exact ⟨i' + 1, f', g, by omega, hf, hg', hx⟩

theorem posIn_isSome : ∀ (fs : List (List (List Bytes))) (n : Nat) (x : Bytes),
    x ∈ fs.flatMap (fun f => f.flatMap id) → (posIn fs n x).isSome = true
  | f :: fs, n, x, h => by
    unfold posIn
    cases hg : findGroup f x with
    | some j => rfl
    | none =>
      rcases List.mem_append.mp (List.flatMap_cons ▸ h) with h | h
      · obtain ⟨g, hgf, hx⟩ := List.mem_flatMap.mp h
        have := List.findIdx?_eq_none_iff.mp hg g hgf
        rw [List.contains_iff_mem.mpr (show x ∈ g from hx)] at this; cases this
      · exact posIn_isSome fs (n+1) x h

theorem pos_of_live {a : Bytes} (h : isLive a = true) : pos a = posIn Tables.ranges 0 a := by
  simp only [isLive, Bool.not_eq_true'] at h
  simp [pos, simplify, stripSuffix?, h]

theorem pos_live {a : Bytes} (ha : a ∈ liveRangeIds) : ∃ i j, pos a = some (i, j) := by
  obtain ⟨hm, hl⟩ := List.mem_filter.mp ha
  obtain ⟨⟨i, j⟩, h⟩ := Option.isSome_iff_exists.mp (posIn_isSome Tables.ranges 0 a hm)
  exact ⟨i, j, (pos_of_live hl).trans h⟩

theorem pos_some {a : Bytes} (hl : isLive a = true) {i j : Nat} (hp : pos a = some (i, j)) :
    ∃ f g, Tables.ranges[i]? = some f ∧ f[j]? = some g ∧ a ∈ g := by
  obtain ⟨_, f, g, rfl, hf, hg, ha⟩ := posIn_some _ _ _ _ _ ((pos_of_live hl).symm.trans hp)
  exact ⟨f, g, hf, hg, ha⟩

/-- found somewhere (`pos_live`), written there (`pos_some`), and written once (`ranges_no_duplicates`) -/
theorem pos_written {i j : Nat} {f : List (List Bytes)} {g : List Bytes} {x : Bytes} (hf : Tables.ranges[i]? = some f)
    (hg : f[j]? = some g) (hx : x ∈ g) (hl : isLive x = true) : pos x = some (i, j) := by
  have hnd : rangeIds.Nodup := nodup_of_foldUnique C11.ranges_no_duplicates
  have hxf : x ∈ f.flatMap id := List.mem_flatMap.mpr ⟨g, List.mem_of_getElem? hg, hx⟩
  obtain ⟨i', j', hp⟩ := pos_live (List.mem_filter.mpr ⟨List.mem_flatMap.mpr ⟨f, List.mem_of_getElem? hf, hxf⟩, hl⟩)
  obtain ⟨f', g', hf', hg', hx'⟩ := pos_some hl hp
  -- `x` stands in family `i'`, where it was found, and in family `i`: the same family, since no id is written twice
  cases index_unique_of_nodup_flatMap hnd hf' hf (List.mem_flatMap.mpr ⟨g', List.mem_of_getElem? hg', hx'⟩) hxf
  cases hf'.symm.trans hf
  -- … and inside that family in groups `j'` and `j`: the same group
  cases index_unique_of_nodup_flatMap ((List.pairwise_flatMap.mp hnd).1 f (List.mem_of_getElem? hf)) hg' hg hx' hx
  exact hp

theorem oracle_of_pos {a b : Bytes} (hla : isLive a = true) (hlb : isLive b = true) {i j k l : Nat}
    (hpa : pos a = some (i, j)) (hpb : pos b = some (k, l)) :
    optBytesEq (famKey a) (famKey b) = (i == k) ∧
    (i = k → ∃ v w, verOf a = some v ∧ verOf b = some w ∧ verCmp v w = compare j l) := by
  obtain ⟨f, g, hf, hg, hag⟩ := pos_some hla hpa
  obtain ⟨f', g', hf', hg', hbg⟩ := pos_some hlb hpb
  constructor
  · -- each id carries the key of its family, and no two families have the same key
    obtain ⟨key, hkey, hall⟩ := family_key hf
    obtain ⟨key', hkey', hall'⟩ := family_key hf'
    rw [hall j g hg a hag hla, hall' l g' hg' b hbg hlb]
    show beqBytes key key' = (i == k)
    rw [beqBytes_eq_beq, Bool.eq_iff_iff, beq_iff_eq, beq_iff_eq]
    refine ⟨fun h => headKey_inj hf hf' hkey (h ▸ hkey'), ?_⟩
    rintro rfl
    cases hf.symm.trans hf'
    exact Option.some.inj (hkey.symm.trans hkey')
  · -- in one family the versions of the groups ascend, so they compare as the indices of the groups
    rintro rfl
    cases hf.symm.trans hf'
    obtain ⟨vs, hsorted, hvs⟩ := family_versions hf
    obtain ⟨v, hv, hva⟩ := hvs j g hg a hag hla
    obtain ⟨w, hw, hwb⟩ := hvs l g' hg' b hbg hlb
    exact ⟨v, w, hva, hwb, verCmp_of_sorted hsorted hv hw⟩

theorem positionsExact_grp (i : Nat) : ∀ (gs : List (List Bytes)) (j : Nat),
    (∀ m g, gs[m]? = some g → ∀ x ∈ g, isLive x = true → pos x = some (i, j + m)) →
    C11.positionsExact.fam.grp i gs j = true
  | [], _, _ => rfl
  | g :: gs, j, h => by
    unfold C11.positionsExact.fam.grp
    rw [Bool.and_eq_true]
    refine ⟨List.all_eq_true.mpr fun x hx => ?_, positionsExact_grp i gs (j+1) fun m g' hg' x hx hl => ?_⟩
    · cases hl : isLive x with
      | false => rfl
      | true => rw [h 0 g rfl x hx hl]; simp
    · rw [h (m+1) g' hg' x hx hl]; congr 2; omega

theorem positionsExact_fam : ∀ (fs : List (List (List Bytes))) (i : Nat),
    (∀ n f, fs[n]? = some f → ∀ m g, f[m]? = some g → ∀ x ∈ g, isLive x = true → pos x = some (i + n, m)) →
    C11.positionsExact.fam fs i = true
  | [], _, _ => rfl
  | f :: fs, i, h => by
    unfold C11.positionsExact.fam
    rw [Bool.and_eq_true]
    refine ⟨positionsExact_grp i f 0 fun m g hg x hx hl => ?_, positionsExact_fam fs (i+1) fun n f' hf' m g hg x hx hl => ?_⟩
    · rw [h 0 f rfl m g hg x hx hl]; simp
    · rw [h (n+1) f' hf' m g hg x hx hl]; congr 2; omega

end Spdx
