/-
C12 — "every exception id is accepted after WITH and nowhere else".  Grammar level, for ALL grammatical token sequences:
an exception token stands directly after the `WITH` operator (`exception_only_after_with_grammar`), and the cascade reads
a listed exception id as its exception token, never as a licence token.  String level: the same for every valid
expression; every listed licence id is valid on its own; an exception id is valid after `WITH` and invalid alone or as
an operand of AND (`exception_only_after_with`).  A listed word scans to the token that carries it (`LicTok.toks`,
`ExcTok.toks`) and the grammar does the rest; only the listed ids that are not words (the deprecated `X+` ids) are run
through the model's scanner and parser in the kernel.
-/
import SpdxVerif.Lemmas.LeafOK
namespace Spdx.C12

/-- every exception token of the list is directly preceded by `WITH` (`prev` = the token before the list) -/
def excGuard : Option Tok → List Tok → Bool
  | _, [] => true
  | prev, .exc e :: r => (match prev with | some (.op .with_) => true | _ => false) && excGuard (some (.exc e)) r
  | _, t :: r => excGuard (some t) r

def lastOr : Option Tok → List Tok → Option Tok
  | prev, [] => prev
  | _, t :: r => lastOr (some t) r

theorem excGuard_append (prev : Option Tok) (a b : List Tok) :
    excGuard prev (a ++ b) = (excGuard prev a && excGuard (lastOr prev a) b) := by
  induction a generalizing prev with
  | nil => simp [excGuard, lastOr]
  | cons t a ih =>
    cases t with
    | exc e =>
      simp only [List.cons_append, excGuard, ih, lastOr]
      cases prev with
      | none => simp
      | some p => cases p <;> simp [Bool.and_assoc]
    | op | lic | docRef | licRef => simp only [List.cons_append, excGuard, ih, lastOr]

theorem D_head_not_exc {lv : Lvl} {ts : List Tok} {n : Node} (h : D lv ts n) : ∀ e, ts.head? ≠ some (.exc e) := by
  obtain ⟨t, rest, rfl, ht⟩ := D_head h
  intro e he
  simp only [List.head?_cons, Option.some.injEq] at he
  subst he; cases ht

/-- **in every grammatical token sequence, each exception token stands directly after WITH** -/
theorem exception_only_after_with_grammar {lv : Lvl} {ts : List Tok} {n : Node} (h : D lv ts n) :
    ∀ prev, excGuard prev ts = true := by
  induction h with
  | ref0 | ref1 | lic | licP | licW | licPW => intro prev; simp [excGuard]
  | paren _ ih =>
    intro prev
    show excGuard (some (.op .lparen)) (_ ++ [.op .rparen]) = true
    rw [excGuard_append, ih]; rfl
  | and1 _ ih | or1 _ ih => exact ih
  | andC _ _ iha ihb | orC _ _ iha ihb =>
    intro prev
    rw [excGuard_append, iha]
    simp only [Bool.true_and, excGuard]
    exact ihb _

/-- a listed exception id is never read as a licence: the cascade gives it the exception role, whether or not a `+`
    follows (for its case variants: `normCore_caseVariant`) -/
theorem exception_word_is_exception_token (x : Bytes) (hx : x ∈ Tables.exceptions) (np : Bool) :
    normCore x np = some ([.exc x], false) := normCore_exception hx np

/-- **string level**: in every valid expression, every exception token the scanner produces stands directly after `WITH` -/
theorem valid_exception_only_after_with (s : Bytes) (ts : List Tok) (h : toks s = some ts) (hv : valid s = true) :
    excGuard none ts = true := by
  obtain ⟨ts', n, h1, h2⟩ := valid_iff_D.mp hv
  cases h.symm.trans h1
  exact exception_only_after_with_grammar h2 none

/-- **every listed license id is accepted as a one-term expression** -/
theorem listed_license_valid : (Tables.active ++ Tables.deprecated).all valid = true := by
  have plus : (Tables.deprecated.filter (!allId ·)).all valid = true := by decide +kernel
  rw [List.all_eq_true] at plus ⊢
  intro c hc
  have word : allId c = true → valid c = true := fun hid =>
    valid_iff_D.mpr ⟨_, _, (licTok_listed hc hid).toks, .or1 (.and1 (.lic c))⟩
  rcases List.mem_append.mp hc with ha | hd
  · exact word (allId_listed (List.mem_append_left _ ha))
  · cases hid : allId c with
    | true => exact word hid
    | false => exact plus c (List.mem_filter.mpr ⟨hd, by simp [hid]⟩)

def bMitWith : Bytes := [77,73,84,32,87,73,84,72,32]  -- "MIT WITH "
def bMitAnd : Bytes := [77,73,84,32,65,78,68,32]      -- "MIT AND "

theorem invalid_of_excGuard {s : Bytes} {ts : List Tok} (h : toks s = some ts) (hg : excGuard none ts = false) :
    valid s = false := by
  cases hv : valid s with
  | false => rfl
  | true => rw [valid_exception_only_after_with s ts h hv] at hg; cases hg

/-- **every exception id is accepted after WITH and nowhere else**: not alone, not as an operand of AND,
    not in parentheses, not as the licence of a WITH -/
theorem exception_only_after_with :
    Tables.exceptions.all (fun e =>
      valid (bMitWith ++ e) && !valid e && !valid (bMitAnd ++ e) && !valid ([40] ++ e ++ [41]) &&
      !valid (e ++ [32,87,73,84,72,32] ++ e)) = true := by
  refine List.all_eq_true.mpr fun e he => ?_
  have hx := excTok_listed he
  have hp : e.head? ≠ some 43 := by simpa using head_idChar_ne_plus hx.allId [] hx.clean.ne_nil
  have mit : toks [77,73,84] = some [.lic [77,73,84]] := by decide +kernel
  have kwWith : toks [32,87,73,84,72] = some [.op .with_] := by decide +kernel
  have t1 : toks (bMitWith ++ e) = some [.lic [77,73,84], .op .with_, .exc e] :=
    (toks_binop _ .with_ kwWith rfl [77,73,84] e hp).trans (by rw [mit, hx.toks]; rfl)
  have t3 : toks (bMitAnd ++ e) = some [.lic [77,73,84], .op .and_, .exc e] :=
    (toks_binop _ .and_ toks_kwAnd rfl [77,73,84] e hp).trans (by rw [mit, hx.toks]; rfl)
  have t4 : toks ([40] ++ e ++ [41]) = some [.op .lparen, .exc e, .op .rparen] :=
    (toks_parens e).trans (by rw [hx.toks]; rfl)
  have t5 : toks (e ++ [32,87,73,84,72,32] ++ e) = some [.exc e, .op .with_, .exc e] := by
    rw [List.append_assoc]
    exact (toks_binop _ .with_ kwWith rfl e e hp).trans (by rw [hx.toks]; rfl)
  have v1 : valid (bMitWith ++ e) = true := valid_iff_D.mpr ⟨_, _, t1, .or1 (.and1 (.licW _ e))⟩
  rw [v1, invalid_of_excGuard hx.toks rfl, invalid_of_excGuard t3 rfl, invalid_of_excGuard t4 rfl,
    invalid_of_excGuard t5 rfl]
  rfl

end Spdx.C12
