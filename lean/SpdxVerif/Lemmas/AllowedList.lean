/-
Lemmas/AllowedList — the terms of the allowed entries are terms produced by the parser; on those the canonical text
determines the term (`render_inj`, from the round trip `parse_render`), so the array `Satisfies` searches after its
in-place sort-and-dedup holds exactly the caller's terms.
-/
import SpdxVerif.Lemmas.LeafOK
import SpdxVerif.Lemmas.Entries
import SpdxVerif.Lemmas.Dedup
namespace Spdx

theorem leafOf_leafOK {x : Bytes} {t : Node} (h : leafOf x = some t) : LeafOK t := by
  obtain ⟨hp, hl⟩ := leafOf_eq_some.mp h
  refine parse_leavesOK x t hp t ?_
  cases t with
  | and | or => cases hl
  | lic | ref => exact List.mem_singleton.mpr rfl

theorem toNodes_leafOK {L : List Bytes} {A : List Node} (h : toNodes L = .ok A) : ∀ a ∈ A, LeafOK a ∧ a.isLeaf = true := by
  intro a ha
  obtain ⟨x, _, hx⟩ := (toNodes_mem h a).mp ha
  exact ⟨leafOf_leafOK hx, (leafOf_eq_some.mp hx).2⟩

theorem render_inj {a b : Node} (ha : LeafOK a) (hb : LeafOK b) (la : a.isLeaf = true) (lb : b.isLeaf = true)
    (h : render a = render b) : a = b := by
  have hp := parse_render a ha la
  rw [h, parse_render b hb lb] at hp
  exact (Except.ok.inj hp).symm

theorem sortAndDedupArray_mem (A : List Node) (hA : ∀ a ∈ A, LeafOK a ∧ a.isLeaf = true) (a : Node) :
    a ∈ sortAndDedupArray A ↔ a ∈ A := by
  refine ⟨C07.sortAndDedupArray_subset A a, fun ha => ?_⟩
  -- `a` has left a representative with its text, which is one of the caller's terms, hence `a` itself
  obtain ⟨k, hk, hkr⟩ := C07.sortAndDedupArray_repr A a ha
  have hkA := C07.sortAndDedupArray_subset A k hk
  rwa [← render_inj (hA k hkA).1 (hA a ha).1 (hA k hkA).2 (hA a ha).2 hkr]

end Spdx
