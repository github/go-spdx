/-
Lemmas/LeafOK — what the scanner's tokens and the parser's terms look like.  The id carried by a licence / exception token is
spelled as in the lists, consists of id bytes, begins with no operator or ref prefix, and scanned again (alone / followed by
`+`) gives the same token (`LicTok`, `PlusTok`, `ExcTok`).  Every token sequence `scan` produces consists of such tokens
(`SeqOK`), hence so do the terms of every parsed expression (`LeafOK`); the canonical text of such a term is a space-separated
sequence of lexemes, so it parses back to the term (`parse_render`).
-/
import SpdxVerif.Lemmas.Layout
namespace Spdx

structure LicTok (c : Bytes) : Prop where
  mem : c ∈ Tables.active ++ Tables.deprecated
  allId : allId c = true
  clean : Clean c
  solo : normCore c false = some ([.lic c], false)

/-- followed by `+`, the id is still read as itself and the `+` is left for the operator -/
def PlusTok (c : Bytes) : Prop := normCore c true = some ([.lic c], false)

structure ExcTok (c : Bytes) : Prop where
  mem : c ∈ Tables.exceptions
  allId : allId c = true
  clean : Clean c
  norm : ∀ np, normCore c np = some ([.exc c], false)

theorem licTok_listed {c : Bytes} (h : c ∈ Tables.active ++ Tables.deprecated) (hid : allId c = true) : LicTok c :=
  ⟨h, hid, clean_listed (List.mem_append_left _ h), (List.mem_append.mp h).elim (normCore_active · false) normCore_deprecated⟩

theorem licTok_active {c : Bytes} (h : c ∈ Tables.active) : LicTok c ∧ PlusTok c :=
  ⟨licTok_listed (List.mem_append_left _ h) (allId_listed (List.mem_append_left _ h)), normCore_active h true⟩

theorem excTok_listed {x : Bytes} (h : x ∈ Tables.exceptions) : ExcTok x :=
  ⟨h, allId_listed (List.mem_append_right _ h), clean_listed (List.mem_append_right _ h), normCore_exception h⟩

theorem LicTok.toks {c : Bytes} (h : LicTok c) : toks c = some [.lic c] := by
  simpa [h.solo, toks_nil] using toks_word_eq c [] h.allId h.clean stops_nil

theorem ExcTok.toks {x : Bytes} (h : ExcTok x) : toks x = some [.exc x] := by
  simpa [h.norm, toks_nil] using toks_word_eq x [] h.allId h.clean stops_nil

theorem licenseLookup_tok {w : Bytes} {t : Tok} (h : licenseLookup w = some t) :
    (∃ c, t = .lic c ∧ LicTok c ∧ PlusTok c) ∨ (∃ c, t = .exc c ∧ ExcTok c) := by
  rcases licenseLookup_inv h with ⟨c, rfl, hm, -⟩ | ⟨c, rfl, hm, -⟩
  · exact .inl ⟨c, rfl, licTok_active hm⟩
  · exact .inr ⟨c, rfl, excTok_listed hm⟩

def SeqOK : List Tok → Prop
  | [] => True
  | .lic c :: rest => LicTok c ∧ (rest.head? = some (.op .plus) → PlusTok c) ∧ SeqOK rest
  | .exc c :: rest => ExcTok c ∧ SeqOK rest
  | .docRef d :: rest => (d ≠ [] ∧ allId d = true) ∧ SeqOK rest
  | .licRef d :: rest => (d ≠ [] ∧ allId d = true) ∧ SeqOK rest
  | .op _ :: rest => SeqOK rest

theorem normCore_seqOK {w : Bytes} {np : Bool} {tk : List Tok} {k : Bool} (hw : allId w = true)
    (h : normCore w np = some (tk, k)) {ts : List Tok} (hs : SeqOK ts) (hp : ts.head? = some (.op .plus) → np = true) :
    SeqOK (tk ++ ts) ∧ (tk ++ ts).head? ≠ some (.op .plus) := by
  have one : ∀ {x t} (ts : List Tok), licenseLookup x = some t → SeqOK ts →
      SeqOK (t :: ts) ∧ (t :: ts).head? ≠ some (.op .plus) := by
    intro x t ts ht hs
    rcases licenseLookup_tok ht with ⟨c, rfl, hl, hpl⟩ | ⟨c, rfl, he⟩
    · exact ⟨⟨hl, fun _ => hpl, hs⟩, nofun⟩
    · exact ⟨⟨he, hs⟩, nofun⟩
  cases normCore_inv h with
  | self ht | only _ _ ht | later _ _ _ ht => exact one ts ht hs
  | plus _ _ _ _ ht => exact one (.op .plus :: ts) ht hs
  | @deprecated c _ _ _ _ hc =>
    obtain ⟨hm, hl⟩ := lookup_some hc
    refine ⟨⟨licTok_listed (List.mem_append_right _ hm) (allId_of_lower_eq c w hl ▸ hw), fun hh => ?_, hs⟩, nofun⟩
    -- `w` followed by `+` is read as `c`; hence so is `c`, a case variant of `w`
    cases hp hh
    exact (normCore_caseVariant c w true (List.mem_append_left _ (List.mem_append_right _ hm)) hl.symm).symm.trans h

theorem seqOK_append (a b : List Tok) (h : SeqOK (a ++ b)) : SeqOK a ∧ SeqOK b := by
  induction a with
  | nil => exact ⟨trivial, h⟩
  | cons t a ih =>
    cases t with
    | op o => exact ih h
    | docRef d | licRef d | exc d => exact ⟨⟨h.1, (ih h.2).1⟩, (ih h.2).2⟩
    | lic c => exact ⟨⟨h.1, fun hh => h.2.1 (match a, hh with | _ :: _, hh => hh), (ih h.2.2).1⟩, (ih h.2.2).2⟩

theorem toks_seqOK : ∀ (s : Bytes) (ts : List Tok), toks s = some ts →
    SeqOK ts ∧ (ts.head? = some (.op .plus) → s.head? = some 43) := by
  refine toks_rec (fun _ _ => ⟨trivial, nofun⟩) ?_
  intro s t1 r ts' hs _ ⟨ih1, ih2⟩
  rcases lexeme_tok_inv (step_lexeme hs nofun) with
    ⟨op, rfl, hop, hnf⟩ | ⟨-, mk, id, hmk, rfl, hne, hid, -, -⟩ | ⟨w, rest, k, -, hid, -, -, hnc, rfl⟩
  · refine ⟨ih1, fun hh => ?_⟩
    cases hh
    -- a `+` that is read stands at the very start, behind no space
    have hsp : s.takeWhile isSp = [] := Decidable.byContradiction fun h => hnf ⟨rfl, decide_eq_true h⟩
    rw [spaces_split s, hsp]
    exact readOp_plus_head hop
  · rcases hmk with rfl | rfl <;> exact ⟨⟨⟨hne, hid⟩, ih1⟩, nofun⟩
  · have ⟨ok, hd⟩ := normCore_seqOK hid hnc ih1 fun hh => by
      -- a `+` token behind the word's tokens comes from a `+` byte behind the word
      cases k with
      | false => simpa using ih2 hh
      | true => exact normCore_flag hnc rfl
    exact ⟨ok, fun hh => absurd hh hd⟩

theorem scan_seqOK (s : Bytes) (ts : List Tok) (h : scan s = .ok ts) : SeqOK ts :=
  (toks_seqOK s ts (toks_of_scan h)).1

def LeafOK : Node → Prop
  | .lic c p e => LicTok c ∧ (p = true → PlusTok c) ∧ (sufOrLater.isSuffixOf c = true → p = true) ∧ (∀ x, e = some x → ExcTok x)
  | .ref d r => (r ≠ [] ∧ allId r = true) ∧ (∀ x, d = some x → x ≠ [] ∧ allId x = true)
  | _ => True

theorem plusTok_of_suffix {c : Bytes} (h : LicTok c) (hs : sufOrLater.isSuffixOf c = true) : PlusTok c := by
  rcases List.mem_append.mp h.mem with ha | hd
  · exact normCore_active ha true
  · -- no deprecated id ends in `-or-later`
    have := (deprecated_no_suffix hd rfl).2
    simp [stripSuffix?, hs] at this

theorem D_leavesOK {lv : Lvl} {ts : List Tok} {n : Node} (h : D lv ts n) : SeqOK ts → ∀ l ∈ leaves n, LeafOK l := by
  have leaf : ∀ {n : Node}, LeafOK n → ∀ l ∈ [n], LeafOK l := fun h l hl => List.mem_singleton.mp hl ▸ h
  induction h with
  | ref0 r => rintro ⟨hr, -⟩; exact leaf ⟨hr, nofun⟩
  | ref1 d r => rintro ⟨hd, hr, -⟩; exact leaf ⟨hr, fun x hx => Option.some.inj hx ▸ hd⟩
  | lic c => rintro ⟨hc, -⟩; exact leaf ⟨hc, plusTok_of_suffix hc, id, nofun⟩
  | licP c => rintro ⟨hc, hplus, -⟩; exact leaf ⟨hc, fun _ => hplus rfl, fun _ => rfl, nofun⟩
  | licW c e => rintro ⟨hc, -, he, -⟩; exact leaf ⟨hc, plusTok_of_suffix hc, id, fun x hx => Option.some.inj hx ▸ he⟩
  | licPW c e => rintro ⟨hc, hplus, he, -⟩; exact leaf ⟨hc, fun _ => hplus rfl, fun _ => rfl, fun x hx => Option.some.inj hx ▸ he⟩
  | paren _ ih => exact fun hs => ih (seqOK_append _ [_] hs).1
  | and1 _ ih | or1 _ ih => exact ih
  | andC _ _ iha ihb | orC _ _ iha ihb =>
    intro hs l hl
    obtain ⟨h1, h2⟩ := seqOK_append _ _ hs
    exact (List.mem_append.mp hl).elim (iha h1 l) (ihb h2 l)

theorem parse_leavesOK (s : Bytes) (n : Node) (h : parse s = .ok n) : ∀ l ∈ leaves n, LeafOK l := by
  obtain ⟨ts, h1, h2⟩ := parse_iff_D.mp h
  exact D_leavesOK h2 (toks_seqOK s ts h1).1

def leafToks : Node → List Tok
  | .lic c p e => .lic c :: ((if p then [.op .plus] else []) ++ (match e with | some x => [.op .with_, .exc x] | none => []))
  | .ref d r => (match d with | some x => [.docRef x, .op .colon] | none => []) ++ [.licRef r]
  | _ => []

def leafLexemes : Node → List Lexeme
  | .lic c p e => .word c p :: (match e with | some x => [.kwWith, .word x false] | none => [])
  | .ref (some d) r => [.docRef d r]
  | .ref none r => [.licRef r]
  | _ => []

theorem render_eq_spaced (l : Node) : render l = spaced (leafLexemes l) := by
  cases l with
  | and | or => rfl
  | ref d r => cases d <;> simp [render, leafLexemes, spaced, Lexeme.text, bColon]
  | lic c p e => cases e <;> cases p <;> simp [render, leafLexemes, spaced, Lexeme.text, bPlus, bWith]

theorem LicTok.word {c : Bytes} (hc : LicTok c) (p : Bool) (hp : p = true → PlusTok c) :
    (Lexeme.word c p).OK ∧ (Lexeme.word c p).toks = some (.lic c :: if p then [.op .plus] else []) := by
  refine ⟨⟨hc.allId, hc.clean⟩, ?_⟩
  cases p with
  | false => simp [Lexeme.toks, hc.solo]
  | true => simp [Lexeme.toks, show normCore c true = _ from hp rfl]

theorem ExcTok.word {x : Bytes} (hx : ExcTok x) : (Lexeme.word x false).OK ∧ (Lexeme.word x false).toks = some [.exc x] :=
  ⟨⟨hx.allId, hx.clean⟩, by simp [Lexeme.toks, hx.norm]⟩

theorem leafLexemes_ok (l : Node) (h : LeafOK l) : (∀ x ∈ leafLexemes l, x.OK) ∧ allToks (leafLexemes l) = some (leafToks l) := by
  cases l with
  | and | or => exact ⟨nofun, rfl⟩
  | ref d r =>
    obtain ⟨⟨hr1, hr2⟩, hd⟩ := h
    cases d with
    | none => exact ⟨by simp [leafLexemes, Lexeme.OK, hr1, hr2], rfl⟩
    | some x => exact ⟨by simp [leafLexemes, Lexeme.OK, hr1, hr2, hd x rfl], rfl⟩
  | lic c p e =>
    obtain ⟨hc, hp, -, he⟩ := h
    obtain ⟨ok, tk⟩ := hc.word p hp
    cases e with
    | none => exact ⟨by simpa [leafLexemes] using ok, by simp only [leafLexemes, allToks, tk]; rfl⟩
    | some x =>
      obtain ⟨okx, tkx⟩ := (he x rfl).word
      exact ⟨by simpa [leafLexemes, Lexeme.OK] using ⟨ok, okx⟩, by simp only [leafLexemes, allToks, tk, tkx]; rfl⟩

theorem toks_render (l : Node) (h : LeafOK l) : toks (render l) = some (leafToks l) := by
  rw [render_eq_spaced, toks_spaced _ (leafLexemes_ok l h).1, (leafLexemes_ok l h).2]

theorem leaf_atom (n : Node) (hl : n.isLeaf = true) (h : LeafOK n) : D .atom (leafToks n) n := by
  cases n with
  | and | or => cases hl
  | ref d r => cases d with
    | none => exact .ref0 r
    | some x => exact .ref1 x r
  | lic c p e =>
    cases p with
    | true => cases e with
      | none => exact .licP c
      | some x => exact .licPW c x
    | false =>
      -- without the `+` the grammar gives `p = false` only to an id that does not end in `-or-later`
      have hsf : sufOrLater.isSuffixOf c = false := Bool.eq_false_iff.mpr fun hh => Bool.noConfusion (h.2.2.1 hh)
      cases e with
      | none => have := D.lic c; rwa [hsf] at this
      | some x => have := D.licW c x; rwa [hsf] at this

theorem parse_render (l : Node) (h : LeafOK l) (hl : l.isLeaf = true) : parse (render l) = .ok l :=
  parse_iff_D.mpr ⟨leafToks l, toks_render l h, D_lift (leaf_atom l hl h) .expr⟩

end Spdx
