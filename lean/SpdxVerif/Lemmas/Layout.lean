/-
Lemmas/Layout — texts made of SPDX lexemes.  A sequence of lexemes laid out with any number of spaces before each lexeme
and at the end, where the gap may be EMPTY only beside a parenthesis, is scanned to exactly the tokens the lexemes
denote (`toks_laidOut`); single spaces between the lexemes (`toks_spaced`) are the layout with gaps 0, 1, 1, ….
-/
import SpdxVerif.Lemmas.Word
namespace Spdx

theorem readRef_word (pre : Bytes) (mk : Bytes → Tok) (r b : Bytes) (off : Nat) (hr : allId r = true) (hne : r ≠ [])
    (hb : Stops b) : readRef pre mk (pre ++ (r ++ b)) off = .tok [mk r] b := by
  unfold readRef
  rw [List.drop_left, (run_eq _ r b hr hb).1, (run_eq _ r b hr hb).2, if_neg hne]

theorem step_refPrefix (x : Bytes) (off : Nat) :
    step (docRefPrefix ++ x) off = readRef docRefPrefix .docRef (docRefPrefix ++ x) off ∧
    step (licRefPrefix ++ x) off = readRef licRefPrefix .licRef (licRefPrefix ++ x) off := by
  -- `D` and `L` are no spaces and begin no operator, so `step` goes straight to the prefix tests
  constructor <;> simp [step_eq, lexeme_eq, isSp, readOp, opTable, docRefPrefix, licRefPrefix]

theorem toks_licRef (r b : Bytes) (hr : allId r = true) (hne : r ≠ []) (hb : Stops b) :
    toks (licRefPrefix ++ (r ++ b)) = (toks b).map (.licRef r :: ·) :=
  toks_of_step fun off => by rw [(step_refPrefix _ off).2, readRef_word _ _ r b _ hr hne hb]

theorem toks_docRef (d b : Bytes) (hd : allId d = true) (hne : d ≠ []) (hb : Stops b) :
    toks (docRefPrefix ++ (d ++ b)) = (toks b).map (.docRef d :: ·) :=
  toks_of_step fun off => by rw [(step_refPrefix _ off).1, readRef_word _ _ d b _ hd hne hb]

/-- the lexemes of the documented grammar: keywords and parentheses, a license / exception word with an optional abutting `+`,
    `LicenseRef-r`, `DocumentRef-d:LicenseRef-r` -/
inductive Lexeme
  | kwWith | kwAnd | kwOr | lparen | rparen
  | word (w : Bytes) (plus : Bool)
  | licRef (r : Bytes)
  | docRef (d r : Bytes)

def Lexeme.text : Lexeme → Bytes
  | .kwWith => [87,73,84,72] | .kwAnd => [65,78,68] | .kwOr => [79,82] | .lparen => [40] | .rparen => [41]
  | .word w plus => w ++ (if plus then [43] else [])
  | .licRef r => licRefPrefix ++ r
  | .docRef d r => docRefPrefix ++ (d ++ (58 :: (licRefPrefix ++ r)))

/-- what a lexeme denotes; `none` = an unknown identifier (the text is then invalid) -/
def Lexeme.toks : Lexeme → Option (List Tok)
  | .kwWith => some [.op .with_] | .kwAnd => some [.op .and_] | .kwOr => some [.op .or_]
  | .lparen => some [.op .lparen] | .rparen => some [.op .rparen]
  | .word w plus => (normCore w plus).map (fun p => p.1 ++ (if plus && !p.2 then [.op .plus] else []))
  | .licRef r => some [.licRef r]
  | .docRef d r => some [.docRef d, .op .colon, .licRef r]

def Lexeme.OK : Lexeme → Prop
  | .word w _ => allId w = true ∧ Clean w
  | .licRef r => allId r = true ∧ r ≠ []
  | .docRef d r => allId d = true ∧ d ≠ [] ∧ allId r = true ∧ r ≠ []
  | _ => True

def spaced : List Lexeme → Bytes
  | [] => []
  | [l] => l.text
  | l :: rest => l.text ++ 32 :: spaced rest

def allToks : List Lexeme → Option (List Tok)
  | [] => some []
  | l :: rest => l.toks.bind (fun t => (allToks rest).map (t ++ ·))

def Lexeme.isParen : Lexeme → Bool
  | .lparen => true | .rparen => true | _ => false

theorem text_head_ne_plus (l : Lexeme) (h : l.OK) (r : Bytes) : (l.text ++ r).head? ≠ some 43 := by
  cases l with
  | word w plus => simp only [Lexeme.text, List.append_assoc]; exact head_idChar_ne_plus h.1 _ h.2.ne_nil
  | licRef r => simp [Lexeme.text, licRefPrefix]
  | docRef d r => simp [Lexeme.text, docRefPrefix]
  | _ => simp [Lexeme.text]

theorem toks_text (l : Lexeme) (h : l.OK) : toks l.text = l.toks := by
  cases l with
  | kwWith | kwAnd | kwOr | lparen | rparen => decide +kernel
  | licRef r => simpa [toks_nil, Lexeme.text, Lexeme.toks] using toks_licRef r [] h.1 h.2 stops_nil
  | docRef d r =>
    obtain ⟨hd, hdne, hrid, hrne⟩ := h
    have hr := toks_licRef r [] hrid hrne stops_nil
    rw [List.append_nil, toks_nil] at hr
    exact (toks_docRef d _ hd hdne (stops_cons (by decide))).trans (by rw [toks_cons_colon, hr]; rfl)
  | word w plus =>
    -- the cascade looks at what stands behind the word: the `+`, or nothing
    cases plus with
    | false =>
      refine (toks_word_eq w [] h.1 h.2 stops_nil).trans ?_
      show (normCore w false).bind _ = (normCore w false).map _
      rcases normCore w false with _ | ⟨tk, k⟩
      · rfl
      · cases k <;> rfl
    | true =>
      refine (toks_word_eq w [43] h.1 h.2 (stops_cons (by decide))).trans ?_
      show (normCore w true).bind _ = (normCore w true).map _
      rcases normCore w true with _ | ⟨tk, k⟩
      · rfl
      · cases k <;> simp [toks_plus_nil, toks_nil]

theorem toks_lexeme_boundary (l : Lexeme) (h : l.OK) (b : Bytes) (hbd : l.isParen = true ∨ isBoundary b = true) :
    toks (l.text ++ b) = l.toks.bind (fun t => (toks b).map (t ++ ·)) := by
  rcases hbd with hp | hb
  · match l, hp with
    | .lparen, _ => exact toks_cons_lparen b
    | .rparen, _ => exact toks_cons_rparen b
  · rw [toks_append _ b hb, toks_text l h]

def spaces (g : Nat) : Bytes := List.replicate g 32

/-- the text of a layout: `g` spaces before each lexeme, `t` spaces at the end -/
def laidOut : List (Nat × Lexeme) → Nat → Bytes
  | [], t => spaces t
  | (g, l) :: rest, t => spaces g ++ (l.text ++ laidOut rest t)

/-- the gap before a lexeme may be empty only where a parenthesis stands on either side (the first lexeme is free) -/
def TightOK : List (Nat × Lexeme) → Prop
  | [] => True
  | [_] => True
  | (g1, l1) :: (g2, l2) :: rest => (g2 = 0 → l1.isParen = true ∨ l2.isParen = true) ∧ TightOK ((g2, l2) :: rest)

theorem spaces_dropWhile (g : Nat) : (spaces g).dropWhile isSp = [] :=
  List.dropWhile_replicate.trans (if_pos rfl)

theorem spaces_boundary (g : Nat) (b : Bytes) (hb : isBoundary b = true) : isBoundary (spaces g ++ b) = true := by
  cases g with
  | zero => exact hb
  | succ g => rfl

theorem laidOut_boundary {g : Nat} {l1 : Lexeme} {rest : List (Nat × Lexeme)} (t : Nat) (h : TightOK ((g, l1) :: rest)) :
    l1.isParen = true ∨ isBoundary (laidOut rest t) = true :=
  match rest, h with
  | [], _ => .inr (by cases t <;> rfl)
  | (0, l2) :: _, h => (h.1 rfl).imp_right fun hp => match l2, hp with | .lparen, _ | .rparen, _ => rfl
  | (_ + 1, _) :: _, _ => .inr rfl

theorem TightOK.tail {p : Nat × Lexeme} {rest : List (Nat × Lexeme)} (h : TightOK (p :: rest)) : TightOK rest :=
  match rest, h with
  | [], _ => trivial
  | _ :: _, h => h.2

theorem toks_laidOut (ps : List (Nat × Lexeme)) (t : Nat) (h : ∀ p ∈ ps, p.2.OK) (ht : TightOK ps) :
    toks (laidOut ps t) = allToks (ps.map (·.2)) := by
  induction ps with
  | nil => exact toks_spaces _ (spaces_dropWhile t)
  | cons p rest ih =>
    obtain ⟨g, l⟩ := p
    have hl : l.OK := h (g, l) (by simp)
    simp only [laidOut, List.map_cons, allToks]
    rw [toks_leading_spaces (spaces g) _ (spaces_dropWhile g) (text_head_ne_plus l hl _),
      toks_lexeme_boundary l hl _ (laidOut_boundary t ht), ih (fun x hx => h x (List.mem_cons_of_mem _ hx)) ht.tail]

theorem spaced_eq_laidOut (l : Lexeme) (rest : List Lexeme) :
    spaced (l :: rest) = laidOut ((0, l) :: rest.map (fun x => (1, x))) 0 := by
  induction rest generalizing l with
  | nil => simp [spaced, laidOut, spaces]
  | cons l2 rest ih =>
    have := ih l2
    simp only [laidOut, spaces, List.replicate_zero, List.nil_append, List.map_cons] at this ⊢
    simp [spaced, this, List.replicate_one]

theorem tightOK_single (g : Nat) (l : Lexeme) (rest : List Lexeme) : TightOK ((g, l) :: rest.map (fun x => (1, x))) := by
  induction rest generalizing g l with
  | nil => trivial
  | cons l2 rest ih => exact ⟨fun h => absurd h (by decide), ih 1 l2⟩

theorem toks_spaced (ls : List Lexeme) (h : ∀ l ∈ ls, l.OK) : toks (spaced ls) = allToks ls := by
  cases ls with
  | nil => exact toks_nil
  | cons l rest =>
    rw [spaced_eq_laidOut, toks_laidOut _ 0 (by simpa using h) (tightOK_single 0 l rest)]
    simp [Function.comp_def]

end Spdx
