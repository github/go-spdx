/-
C11 — '+' reaches exactly the later versions of the same family, in true version order.  The version order is the ORACLE
of Spec/Version.lean: family and version are READ OFF THE IDS, not taken from the table.  That the table is well-formed
(`ranges_listed` … `coverage_complete`) is decided at the head of Lemmas/RangeTable.lean, which draws the consequences.
-/
import SpdxVerif.Props.C02
import SpdxVerif.Lemmas.MatchSpec
import SpdxVerif.Lemmas.RangeTable
namespace Spdx.C11

/-- `X-v1+` matches `X-v2` (different ids, equal exceptions) iff both sit in the same family and v1's group is not
    after v2's; in particular '+' never makes an id match an id of another family or an id outside the table -/
theorem plus_reach_pos (a b : Bytes) (e : Option Bytes) (i j k l : Nat)
    (ha : pos a = some (i, j)) (hb : pos b = some (k, l)) (hne : a ≠ b)
    (hfold : foldEq (render (.lic a true e)) (render (.lic b false e)) = false) :
    matchLeaf (.lic a true e) (.lic b false e) = (i == k && decide (j ≤ l)) :=
  C02.version_rule a b true false e i j k l ha hb hne hfold

theorem plus_never_leaves_table (a b : Bytes) (pb : Bool) (e : Option Bytes)
    (ha : pos a = none) (hne : a ≠ b)
    (hfold : foldEq (render (.lic a true e)) (render (.lic b pb e)) = false) :
    matchLeaf (.lic a true e) (.lic b pb e) = false :=
  C02.unranged_matches_only_itself a b true pb e ha hne hfold

/-- an id that is written once (`ranges_no_duplicates`) is found where it is written -/
theorem positions_exact : positionsExact = true :=
  positionsExact_fam Tables.ranges 0 fun n f hf m g hg x hx hl => by rw [pos_written hf hg hx hl, Nat.zero_add]

def verLeO : Option Ver → Option Ver → Bool
  | some a, some b => verLe a b
  | _, _ => false

def verEqO : Option Ver → Option Ver → Bool
  | some a, some b => verEq a b
  | _, _ => false

/-- what the implementation computes from table positions -/
def reachByPos (a b : Bytes) : Bool :=
  match pos a, pos b with
  | some (i, j), some (k, l) => Nat.beq i k && Nat.ble j l
  | _, _ => false

/-- what the property demands, from the ids alone: same family key, version of `a` not later than that of `b` -/
def reachByOracle (a b : Bytes) : Bool := optBytesEq (famKey a) (famKey b) && verLeO (verOf a) (verOf b)

def reachAgree : Bool := liveRangeIds.all (fun a => liveRangeIds.all (fun b => reachByPos a b == reachByOracle a b))

/-- `C02.versionRule` with table positions replaced by what the oracle reads off the ids -/
def oracleRule (a b : Bytes) (pa pb : Bool) : Bool :=
  optBytesEq (famKey a) (famKey b) &&
    match pa, pb with
    | false, false => verEqO (verOf a) (verOf b)
    | true, false => verLeO (verOf a) (verOf b)
    | false, true => verLeO (verOf b) (verOf a)
    | true, true => true

theorem versionRule_oracle (a b : Bytes) (pa pb : Bool) (ha : a ∈ liveRangeIds) (hb : b ∈ liveRangeIds) :
    C02.versionRule a b pa pb = oracleRule a b pa pb := by
  obtain ⟨i, j, hpa⟩ := pos_live ha
  obtain ⟨k, l, hpb⟩ := pos_live hb
  obtain ⟨hkey, hver⟩ := oracle_of_pos (List.mem_filter.mp ha).2 (List.mem_filter.mp hb).2 hpa hpb
  simp only [C02.versionRule, oracleRule, hpa, hpb, hkey]
  cases hik : (i == k) with
  | false => rfl
  | true =>
    obtain ⟨v, w, hv, hw, hc⟩ := hver (beq_iff_eq.mp hik)
    obtain ⟨h1, h2, h3⟩ := verTests_of_cmp hc
    rw [hv, hw]
    cases pa <;> cases pb <;> simp only [verEqO, verLeO, h1, h2, h3]

/-- **the four `+` cases in oracle form.**  Two different ids of the range table (same exception on both sides) match iff
the oracle reads the same family key off both and their versions compare as the `+` flags demand. -/
theorem match_oracle (a b : Bytes) (pa pb : Bool) (e : Option Bytes) (ha : a ∈ liveRangeIds) (hb : b ∈ liveRangeIds)
    (hne : a ≠ b) (hfold : foldEq (render (.lic a pa e)) (render (.lic b pb e)) = false) :
    matchLeaf (.lic a pa e) (.lic b pb e) = oracleRule a b pa pb :=
  (matchLeaf_of_ne a b pa pb e hne hfold).trans (versionRule_oracle a b pa pb ha hb)

theorem reach_agree_at (a b : Bytes) (ha : a ∈ liveRangeIds) (hb : b ∈ liveRangeIds) : reachByPos a b = reachByOracle a b := by
  refine Eq.trans ?_ (versionRule_oracle a b true false ha hb)
  -- `reachByPos` is the `+` / no-`+` case of the version rule, spelt with `Nat.beq` and `Nat.ble`
  unfold reachByPos C02.versionRule
  cases pos a <;> cases pos b <;> try rfl
  rw [Bool.eq_iff_iff]; simp

/-- position order is true version order, and ids of different families never reach each other — for all ordered pairs of
    live ids of the range table; from the well-formedness of the table and the transitivity of the version order
    (`oracle_of_pos`) -/
theorem reach_agree : reachAgree = true :=
  List.all_eq_true.mpr fun a ha => List.all_eq_true.mpr fun b hb => by rw [reach_agree_at a b ha hb]; exact beq_self_eq_true _

theorem foldEq_plus_noplus (a b : Bytes) (e e' : Option Bytes) (ha : allId a = true) (hb : allId b = true) :
    foldEq (render (.lic a true e)) (render (.lic b false e')) = false := by
  cases h : foldEq (render (.lic a true e)) (render (.lic b false e')) with
  | false => rfl
  | true =>
    -- texts equal up to letter case split alike into id and tail, and equal tails carry equal `+` flags: `true = false`
    cases (lower_licTail_inj (lower_render_lic ha hb h).2).1

/-- **C11.** For two different ids `a`, `b` of the range table (same exception on both sides): `a+` matches `b` iff the
oracle reads the same family off both ids and `a`'s version is not later than `b`'s. -/
theorem plus_reach_oracle (a b : Bytes) (e : Option Bytes) (ha : a ∈ liveRangeIds) (hb : b ∈ liveRangeIds) (hne : a ≠ b)
    (hia : allId a = true) (hib : allId b = true) :
    matchLeaf (.lic a true e) (.lic b false e) = reachByOracle a b :=
  match_oracle a b true false e ha hb hne (foldEq_plus_noplus a b e e hia hib)

/-- `+` never makes an id match an id of a different family -/
theorem plus_never_crosses_family (a b : Bytes) (e : Option Bytes) (ha : a ∈ liveRangeIds) (hb : b ∈ liveRangeIds) (hne : a ≠ b)
    (hia : allId a = true) (hib : allId b = true) (h : matchLeaf (.lic a true e) (.lic b false e) = true) :
    optBytesEq (famKey a) (famKey b) = true := by
  rw [plus_reach_oracle a b e ha hb hne hia hib] at h
  simp only [reachByOracle, Bool.and_eq_true] at h
  exact h.1

/-- the ids of the range table are id-byte strings (so the hypotheses above hold for every entry) -/
theorem range_ids_are_id_bytes : liveRangeIds.all allId = true := by decide +kernel

/-- neither side has `+`: two different table ids match iff the oracle reads the same family and the same version -/
theorem noplus_match_oracle (a b : Bytes) (e : Option Bytes) (ha : a ∈ liveRangeIds) (hb : b ∈ liveRangeIds) (hne : a ≠ b)
    (hfold : foldEq (render (.lic a false e)) (render (.lic b false e)) = false) :
    matchLeaf (.lic a false e) (.lic b false e) = (optBytesEq (famKey a) (famKey b) && verEqO (verOf a) (verOf b)) :=
  match_oracle a b false false e ha hb hne hfold

/-- both sides have `+`: two different table ids match iff the oracle reads the same family -/
theorem bothplus_match_oracle (a b : Bytes) (e : Option Bytes) (ha : a ∈ liveRangeIds) (hb : b ∈ liveRangeIds) (hne : a ≠ b)
    (hfold : foldEq (render (.lic a true e)) (render (.lic b true e)) = false) :
    matchLeaf (.lic a true e) (.lic b true e) = optBytesEq (famKey a) (famKey b) :=
  (match_oracle a b true true e ha hb hne hfold).trans (Bool.and_true _)

/-! ### non-vacuity: the oracle on ids of the shipped lists -/
section
private def ver (s : Bytes) : Ver := (verOf s).getD ⟨[], 0⟩
-- LPPL-1.3a < LPPL-1.3c ; PHP-3.0 < PHP-3.01 ; OLDAP-2.0 < OLDAP-2.0.1 < OLDAP-2.1
example : verLt (ver [76,80,80,76,45,49,46,51,97]) (ver [76,80,80,76,45,49,46,51,99]) = true := by decide +kernel
example : verLt (ver [80,72,80,45,51,46,48]) (ver [80,72,80,45,51,46,48,49]) = true := by decide +kernel
example : verLt (ver [79,76,68,65,80,45,50,46,48]) (ver [79,76,68,65,80,45,50,46,48,46,49]) = true := by decide +kernel
example : verLt (ver [79,76,68,65,80,45,50,46,48,46,49]) (ver [79,76,68,65,80,45,50,46,49]) = true := by decide +kernel
-- GPL-2.0-only and GPL-2.0 have the same family key GPL-* and version
example : optBytesEq (famKey [71,80,76,45,50,46,48,45,111,110,108,121]) (some [71,80,76,45,42]) = true := by decide +kernel
end

section
private def lgpl20 : Bytes := [76,71,80,76,45,50,46,48]            -- LGPL-2.0
private def lgpl21 : Bytes := [76,71,80,76,45,50,46,49]            -- LGPL-2.1
private def lgpl30 : Bytes := [76,71,80,76,45,51,46,48]            -- LGPL-3.0
private def gpl30 : Bytes := [71,80,76,45,51,46,48]                -- GPL-3.0
example : reachByOracle lgpl20 lgpl21 = true ∧ reachByOracle lgpl21 lgpl20 = false ∧ reachByOracle lgpl20 gpl30 = false := by
  decide +kernel
example : lgpl20 ∈ liveRangeIds ∧ lgpl30 ∈ liveRangeIds := by decide +kernel
end

end Spdx.C11
