/-
Lemmas/Dedup — the in-place sort-and-dedup of the allowed nodes (whose returned slice `Satisfies` discards): the array
afterwards holds nothing it did not hold before, and a representative, with the same canonical text, of everything it held.
-/
import SpdxVerif.Lemmas.Expand
namespace Spdx.C07

/-- the elements of `ys` whose canonical text differs from that of their predecessor (`p` before the first) -/
def runs (p : Node) : List Node → List Node
  | [] => []
  | y :: ys => if render p != render y then y :: runs y ys else runs y ys

theorem dedupInPlace_go_eq (p : Node) (kept ys : List Node) : dedupInPlace.go p kept ys = kept.reverse ++ runs p ys := by
  induction ys generalizing p kept with
  | nil => simp [dedupInPlace.go, runs]
  | cons y ys ih => simp only [dedupInPlace.go, runs]; split <;> simp [ih]

theorem runs_sublist (p : Node) (ys : List Node) : (runs p ys).Sublist ys := by
  induction ys generalizing p with
  | nil => exact .slnil
  | cons y ys ih =>
    simp only [runs]
    split
    · exact (ih y).cons_cons y
    · exact (ih y).cons y

theorem runs_repr (p : Node) (ys : List Node) : ∀ y ∈ ys, ∃ k ∈ p :: runs p ys, render k = render y := by
  induction ys generalizing p with
  | nil => simp
  | cons z ys ih =>
    intro y hy
    simp only [runs]
    rcases List.mem_cons.mp hy with rfl | hy
    · split
      · exact ⟨y, by simp, rfl⟩
      · rename_i h; exact ⟨p, by simp, by simpa using h⟩
    · obtain ⟨k, hk, hkr⟩ := ih z y hy
      split
      · exact ⟨k, List.mem_cons_of_mem _ hk, hkr⟩
      · rename_i h
        rcases List.mem_cons.mp hk with rfl | hk
        · exact ⟨p, by simp, by rw [← hkr]; simpa using h⟩
        · exact ⟨k, List.mem_cons_of_mem _ hk, hkr⟩

theorem dedupInPlace_cons (a : Node) (as : List Node) :
    dedupInPlace (a :: as) = (a :: runs a as) ++ (a :: as).drop (a :: runs a as).length := by
  simp [dedupInPlace, dedupInPlace_go_eq]

theorem dedupInPlace_subset (l : List Node) : ∀ x, x ∈ dedupInPlace l → x ∈ l := by
  cases l with
  | nil => simp [dedupInPlace]
  | cons a as =>
    intro x hx
    rw [dedupInPlace_cons] at hx
    rcases List.mem_append.mp hx with h | h
    · exact ((runs_sublist a as).cons_cons a).subset h
    · exact List.mem_of_mem_drop h

theorem dedupInPlace_repr (l : List Node) : ∀ y ∈ l, ∃ k ∈ dedupInPlace l, render k = render y := by
  cases l with
  | nil => simp
  | cons a as =>
    intro y hy
    rw [dedupInPlace_cons]
    rcases List.mem_cons.mp hy with rfl | hy
    · exact ⟨y, List.mem_append_left _ (by simp), rfl⟩
    · obtain ⟨k, hk, hkr⟩ := runs_repr a as y hy
      exact ⟨k, List.mem_append_left _ hk, hkr⟩

theorem sortAndDedupArray_subset (A : List Node) : ∀ x, x ∈ sortAndDedupArray A → x ∈ A := by
  intro x hx
  unfold sortAndDedupArray at hx
  split at hx
  · exact hx
  · exact (sortLeaves_perm A).mem_iff.mp (dedupInPlace_subset _ x hx)

theorem sortAndDedupArray_repr (A : List Node) : ∀ y ∈ A, ∃ k ∈ sortAndDedupArray A, render k = render y := by
  intro y hy
  unfold sortAndDedupArray
  split
  · exact ⟨y, hy, rfl⟩
  · exact dedupInPlace_repr _ y ((sortLeaves_perm A).mem_iff.mpr hy)

end Spdx.C07
