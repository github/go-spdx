/-
Lemmas/Word — how a word is scanned.  A word of id bytes that begins with no operator and no reference prefix (`Clean`),
followed by a byte that cannot continue it, is handed whole to the normalisation cascade (`lexeme_word`), so the tokens of
the text are what the cascade makes of the word, then the tokens of the rest (`toks_word_eq`).  A case variant of a listed
id is a clean word that the cascade treats like the id, so it is scanned like the id, at the head of a text and behind a
space or a parenthesis (`toks_caseVariant_head`, `toks_caseVariant_ctx`).
-/
import SpdxVerif.Lemmas.Listed
import SpdxVerif.Lemmas.ParseString
namespace Spdx

theorem lowerC_idChar (c : Nat) : isIdChar (lowerC c) = isIdChar c := by
  unfold lowerC
  split
  · next h =>
    unfold isIdChar
    rw [decide_eq_true h.1, decide_eq_true h.2, decide_eq_true (show 97 ≤ c + 32 by omega),
      decide_eq_true (show c + 32 ≤ 122 by omega)]
    simp
  · rfl

theorem lower_allId (a : Bytes) : allId (lower a) = allId a := by
  unfold allId lower
  rw [List.all_map]
  exact congrArg (a.all ·) (funext lowerC_idChar)

theorem allId_of_lower_eq (a b : Bytes) (h : lower a = lower b) : allId a = allId b := by
  rw [← lower_allId a, h, lower_allId]

theorem allId_append (a b : Bytes) : allId (a ++ b) = (allId a && allId b) := List.all_append

theorem head_idChar {x : Bytes} (hx : allId x = true) (hne : x ≠ []) (b : Bytes) :
    ∃ c, (x ++ b).head? = some c ∧ isIdChar c = true := by
  cases x with
  | nil => exact absurd rfl hne
  | cons c r => exact ⟨c, rfl, (Bool.and_eq_true _ _ ▸ hx : _ ∧ _).1⟩

theorem head_idChar_ne_plus {x : Bytes} (hx : allId x = true) (b : Bytes) (hne : x ≠ []) : (x ++ b).head? ≠ some 43 := by
  obtain ⟨c, hc, hid⟩ := head_idChar hx hne b
  rw [hc]
  intro h; cases h; exact absurd hid (by decide)

def Clean (w : Bytes) : Prop :=
  readOp w = none ∧ docRefPrefix.isPrefixOf w = false ∧ licRefPrefix.isPrefixOf w = false ∧ w ≠ []

theorem Clean.ne_nil {w : Bytes} (h : Clean w) : w ≠ [] := h.2.2.2

theorem lower_isPrefixOf (p w : Bytes) (h : p.isPrefixOf w = true) : (lower p).isPrefixOf (lower w) = true := by
  rw [List.isPrefixOf_iff_prefix] at h ⊢
  exact h.map lowerC

theorem clean_of_foldClean (w w' : Bytes) (hc : foldClean w = true) (h : lower w' = lower w) : Clean w' := by
  simp only [foldClean, Bool.and_eq_true, Bool.not_eq_true'] at hc
  obtain ⟨⟨⟨⟨⟨hWith, hAnd⟩, hOr⟩, hDoc⟩, hLic⟩, hHead⟩ := hc
  have hst : ∀ p, lowerStarts p w = false → p.isPrefixOf w' = false := fun p hp =>
    Bool.eq_false_iff.mpr fun hpp => Bool.eq_false_iff.mp hp (h ▸ lower_isPrefixOf p w' hpp :)
  match w, w', h, hHead with
  | c :: _, c' :: r', h, hHead =>
    have hid : isIdChar c' = true := by
      rw [← lowerC_idChar, (List.cons.inj h).1, lowerC_idChar]; exact hHead
    refine ⟨?_, hst _ hDoc, hst _ hLic, List.cons_ne_nil _ _⟩
    -- the three keywords are excluded by `hst`, the four one-byte operators because `c'` is an id byte
    have : 40 ≠ c' ∧ 41 ≠ c' ∧ 58 ≠ c' ∧ 43 ≠ c' := by
      refine ⟨?_, ?_, ?_, ?_⟩ <;> (rintro rfl; cases hid)
    simp [readOp, opTable, hst _ hWith, hst _ hAnd, hst _ hOr, this]

theorem clean_caseVariant {w w' : Bytes} (hw : w ∈ Tables.active ++ Tables.deprecated ++ Tables.exceptions)
    (h : lower w' = lower w) : Clean w' :=
  clean_of_foldClean w w' (List.all_eq_true.mp listed_foldClean w hw) h

theorem clean_listed {c : Bytes} (h : c ∈ Tables.active ++ Tables.deprecated ++ Tables.exceptions) : Clean c :=
  clean_caseVariant h rfl

theorem lexeme_word (w b : Bytes) (o : Nat) (f : Bool) (hw : allId w = true) (hc : Clean w) (hb : Stops b) :
    lexeme (w ++ b) o f = (match normCore w (b.head? == some 43) with
      | none => .err (.unknownLicense w o)
      | some (toks, k) => .tok toks (if k then b.tail else b)) := by
  obtain ⟨hop, hdoc, hlic, hne⟩ := hc
  cases w with
  | nil => exact absurd rfl hne
  | cons y s =>
    obtain ⟨t1, t2⟩ := run_eq _ (y :: s) b hw hb
    rw [lexeme_eq, readOp_append y s b hb, hop, isPrefixOf_append_stop _ _ _ (by decide) hb, hdoc,
      isPrefixOf_append_stop _ _ _ (by decide) hb, hlic]
    simp only [Option.map_none, Bool.false_eq_true, ↓reduceIte, readWord, t1, t2, reduceCtorEq]
    rfl

theorem step_word (w b : Bytes) (off : Nat) (hw : allId w = true) (hc : Clean w) (hb : Stops b) :
    step (w ++ b) off = (match normCore w (b.head? == some 43) with
      | none => .err (.unknownLicense w off)
      | some (toks, k) => .tok toks (if k then b.tail else b)) := by
  obtain ⟨c, hc', hid⟩ := head_idChar hw hc.ne_nil b
  have hsp : (w ++ b).takeWhile isSp = [] ∧ (w ++ b).dropWhile isSp = w ++ b :=
    run_eq isSp [] (w ++ b) rfl fun c' h => by
      cases hc'.symm.trans h
      exact Bool.eq_false_iff.mpr fun hs => by rw [isSp, beq_iff_eq] at hs; subst hs; exact absurd hid (by decide)
  have hne : w ++ b ≠ [] := fun h => hc.ne_nil (List.append_eq_nil_iff.mp h).1
  rw [step_eq, hsp.2, hsp.1, if_neg hne]
  exact lexeme_word w b _ _ hw hc hb

theorem toks_word_eq (w b : Bytes) (hw : allId w = true) (hc : Clean w) (hb : Stops b) :
    toks (w ++ b) = (normCore w (b.head? == some 43)).bind (fun p => (toks (if p.2 then b.tail else b)).map (p.1 ++ ·)) := by
  rw [toks_unfold _ 0, step_word w b 0 hw hc hb]
  cases normCore w (b.head? == some 43) <;> rfl

theorem toks_word (w b : Bytes) (tk : List Tok) (k : Bool) (hw : allId w = true) (hc : Clean w) (hb : Stops b)
    (hn : normCore w (b.head? == some 43) = some (tk, k)) :
    toks (w ++ b) = (toks (if k then b.tail else b)).map (tk ++ ·) := by
  rw [toks_word_eq w b hw hc hb, hn]; rfl

def listedAll : List Bytes := Tables.active ++ Tables.deprecated ++ Tables.exceptions

theorem toks_caseVariant_head (w w' b : Bytes) (hw : w ∈ listedAll) (hid : allId w = true) (h : lower w' = lower w)
    (hb : Stops b) : toks (w' ++ b) = toks (w ++ b) := by
  rw [toks_word_eq w' b (allId_of_lower_eq w' w h ▸ hid) (clean_caseVariant hw h) hb,
    toks_word_eq w b hid (clean_listed hw) hb, normCore_caseVariant w w' _ hw h]

theorem toks_caseVariant_ctx (a : Bytes) (sep : Nat) (w w' b : Bytes) (hsep : sep = 32 ∨ sep = 40 ∨ sep = 41)
    (hw : w ∈ listedAll) (hid : allId w = true) (h : lower w' = lower w) (hb : Stops b) :
    toks (a ++ sep :: (w' ++ b)) = toks (a ++ sep :: (w ++ b)) :=
  toks_ctx a sep _ _ hsep
    (head_idChar_ne_plus (allId_of_lower_eq w' w h ▸ hid) b (clean_caseVariant hw h).ne_nil)
    (head_idChar_ne_plus hid b (clean_listed hw).ne_nil) (toks_caseVariant_head w w' b hw hid h hb)

end Spdx
