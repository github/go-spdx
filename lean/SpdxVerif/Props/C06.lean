/-
C06 — ExtractLicenses returns exactly the distinct terms of the expression.
-/
import SpdxVerif.Lemmas.Outcome
namespace Spdx.C06

/-- what `ExtractLicenses` returns for a valid expression -/
theorem extract_eq (s : Bytes) (n : Node) (h : parse s = .ok n) :
    extract s = some (dedup [] ((expand n).flatten.map render)) := by
  simp [extract, h]

theorem extract_some {s : Bytes} {out : List Bytes} (h : extract s = some out) :
    ∃ n, parse s = .ok n ∧ out = dedup [] ((expand n).flatten.map render) := by
  unfold extract at h
  split at h
  · cases h
  · rename_i n hp; exact ⟨n, hp, (Option.some.inj h).symm⟩

/-- without duplicates -/
theorem extract_nodup (s : Bytes) (out : List Bytes) (h : extract s = some out) : out.Nodup := by
  obtain ⟨n, -, rfl⟩ := extract_some h; exact dedup_nodup _ _

/-- **no term is missing and none is invented**: the returned strings are exactly the renderings of the leaves -/
theorem extract_mem (s : Bytes) (n : Node) (out : List Bytes) (hp : parse s = .ok n) (h : extract s = some out) (x : Bytes) :
    x ∈ out ↔ ∃ t ∈ leaves n, x = render t := by
  obtain ⟨n', hp', rfl⟩ := extract_some h
  cases hp.symm.trans hp'
  simp only [dedup_mem, List.mem_map, mem_flatten_expand, List.not_mem_nil, not_false_eq_true, and_true, eq_comm]

/-- every tree is satisfied by the list of its own terms (so `Satisfies(e, ExtractLicenses(e))` holds as soon as the
    returned strings parse back to those terms — see `render_roundtrip` below) -/
theorem self_satisfies (n : Node) (A : List Node) (h : ∀ t ∈ leaves n, t ∈ A) : verdict n A = true := by
  rw [verdict, verdictBy_eq_eval]
  exact eval_of_leaves _ n (fun t ht => List.any_eq_true.mpr ⟨t, h t ht, matchLeaf_refl t (leaves_isLeaf n t ht)⟩)

/-- **round trip**: the canonical text of every term of every valid expression is itself a valid expression that parses
    back to that very term (scanner + normalisation cascade + parser, for all byte strings; relative to the shipped tables
    through the obligations `lists_fold_distinct`, `deprecated_have_no_suffix`, `listed_foldClean`) -/
theorem render_roundtrip (s : Bytes) (n l : Node) (hp : parse s = .ok n) (hl : l ∈ leaves n) : parse (render l) = .ok l :=
  parse_render l (parse_leavesOK s n hp l hl) (leaves_isLeaf n l hl)

/-- **every returned string is itself a valid single-term expression that extracts to itself** -/
theorem extract_self (s : Bytes) (out : List Bytes) (x : Bytes) (h : extract s = some out) (hx : x ∈ out) :
    valid x = true ∧ extract x = some [x] := by
  obtain ⟨n, hp, -⟩ := extract_some h
  obtain ⟨t, ht, rfl⟩ := (extract_mem s n out hp h x).mp hx
  have hr := render_roundtrip s n t hp ht
  refine ⟨by simp [valid, hr], ?_⟩
  simp [extract, hr, expand, leaves_isLeaf n t ht, dedup]

/-- **using the returned list as the allowed list always satisfies the expression** -/
theorem satisfies_own_terms (s : Bytes) (out : List Bytes) (h : extract s = some out) : satisfies s out = .ok true := by
  obtain ⟨n, hp, -⟩ := extract_some h
  have hmem := extract_mem s n out hp h
  have hden : ∀ t ∈ leaves n, render t ∈ out ∧ leafOf (render t) = some t := fun t ht =>
    ⟨(hmem _).mpr ⟨t, ht, rfl⟩, leafOf_eq_some.mpr ⟨render_roundtrip s n t hp ht, leaves_isLeaf n t ht⟩⟩
  obtain ⟨A, hA⟩ := (toNodes_ok_iff_all out).mpr fun x hx => by
    obtain ⟨t, ht, rfl⟩ := (hmem x).mp hx
    rw [(hden t ht).2]; rfl
  obtain ⟨t, ht⟩ := exists_leaf n
  rw [C07.satisfies_eq s out n A hp (List.ne_nil_of_mem (hden t ht).1) hA,
    ← show verdict n A = eval (covered A) n from verdictBy_eq_eval _ _ _,
    self_satisfies n A fun t ht => (toNodes_mem hA t).mpr ⟨render t, hden t ht⟩]

end Spdx.C06
