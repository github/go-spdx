/-
C10 (string level) — `Satisfies('(E) AND (F)', A) = Satisfies(E, A) and Satisfies(F, A)`, likewise for OR; extra spaces and
redundant parentheses never change the result; rewrites that keep the set of terms keep the set `ExtractLicenses` returns.
-/
import SpdxVerif.Props.C10
import SpdxVerif.Props.C04
import SpdxVerif.Props.C09Text
namespace Spdx.C10

theorem results_of_parse {e e' : Bytes} {n : Node} (h : parse e = .ok n) (h' : parse e' = .ok n) (L : List Bytes) :
    satisfies e' L = satisfies e L ∧ extract e' = extract e :=
  have ⟨_, s, x, _⟩ := C09.results_of_tree (tree_eq_some.mpr h' |>.trans (tree_eq_some.mpr h).symm)
  ⟨s L, x⟩

/-- **redundant parentheses** around a valid expression change neither `Satisfies` nor `ExtractLicenses` -/
theorem parens_irrelevant (e : Bytes) (L : List Bytes) (hv : valid e = true) :
    satisfies (40 :: (e ++ [41])) L = satisfies e L ∧ extract (40 :: (e ++ [41])) = extract e := by
  obtain ⟨n, hn⟩ := (C04.valid_iff e).mp hv
  exact results_of_parse hn (parse_parens e n hn) L

/-- **extra spaces** before and after a valid expression change nothing -/
theorem outer_spaces_irrelevant (e sp sp' : Bytes) (L : List Bytes) (hv : valid e = true)
    (hsp : sp.dropWhile isSp = []) (hsp' : sp'.dropWhile isSp = []) :
    satisfies (sp ++ (e ++ sp')) L = satisfies e L ∧ extract (sp ++ (e ++ sp')) = extract e := by
  obtain ⟨n, hn⟩ := (C04.valid_iff e).mp hv
  exact results_of_parse hn (parse_leading_spaces sp (e ++ sp') hsp n (parse_trailing_spaces e sp' hsp' n hn)) L

/-- **`Satisfies('(E) AND (F)', A) = Satisfies(E, A) and Satisfies(F, A)`** for byte strings `E`, `F` -/
theorem satisfies_andText (E F : Bytes) (L : List Bytes) (bE bF : Bool)
    (hE : satisfies E L = .ok bE) (hF : satisfies F L = .ok bF) : satisfies (andText E F) L = .ok (bE && bF) := by
  obtain ⟨nE, pE, hc, rfl⟩ := C07.satisfies_ok_iff.mp hE
  obtain ⟨nF, pF, -, rfl⟩ := C07.satisfies_ok_iff.mp hF
  exact C07.satisfies_ok_iff.mpr ⟨_, parse_andText E F nE nF pE pF, hc, rfl⟩

/-- … and likewise for OR -/
theorem satisfies_orText (E F : Bytes) (L : List Bytes) (bE bF : Bool)
    (hE : satisfies E L = .ok bE) (hF : satisfies F L = .ok bF) : satisfies (orText E F) L = .ok (bE || bF) := by
  obtain ⟨nE, pE, hc, rfl⟩ := C07.satisfies_ok_iff.mp hE
  obtain ⟨nF, pF, -, rfl⟩ := C07.satisfies_ok_iff.mp hF
  exact C07.satisfies_ok_iff.mpr ⟨_, parse_orText E F nE nF pE pF, hc, rfl⟩

/-- **same Boolean function, same verdict** on strings: two valid expressions whose trees denote the same Boolean function
    get the same result under every allowed list -/
theorem satisfies_of_eval_eq (e₁ e₂ : Bytes) (n₁ n₂ : Node) (L : List Bytes)
    (h₁ : parse e₁ = .ok n₁) (h₂ : parse e₂ = .ok n₂) (h : ∀ p, eval p n₁ = eval p n₂) :
    satisfies e₁ L = satisfies e₂ L := by
  have hv : verdict n₁ = verdict n₂ := funext (verdict_of_eval_eq matchLeaf n₁ n₂ h)
  simp only [satisfies, h₁, h₂, hv]

/-- rewrites that keep the set of terms keep the set `ExtractLicenses` returns -/
theorem extract_set_of_leaves (e₁ e₂ : Bytes) (n₁ n₂ : Node) (o₁ o₂ : List Bytes)
    (h₁ : parse e₁ = .ok n₁) (h₂ : parse e₂ = .ok n₂) (x₁ : extract e₁ = some o₁) (x₂ : extract e₂ = some o₂)
    (h : ∀ t, t ∈ leaves n₁ ↔ t ∈ leaves n₂) : ∀ x, x ∈ o₁ ↔ x ∈ o₂ := by
  intro x
  simp only [C06.extract_mem e₁ n₁ o₁ h₁ x₁ x, C06.extract_mem e₂ n₂ o₂ h₂ x₂ x, h]

/-- commutativity, associativity, idempotence and distribution keep the set of terms (absorption does not) -/
theorem leaves_and_comm (x y : Node) (t : Node) : t ∈ leaves (.and x y) ↔ t ∈ leaves (.and y x) := by
  simp only [leaves, List.mem_append]; exact Or.comm
theorem leaves_or_comm (x y : Node) (t : Node) : t ∈ leaves (.or x y) ↔ t ∈ leaves (.or y x) := by
  simp only [leaves, List.mem_append]; exact Or.comm
theorem leaves_and_assoc (x y z : Node) (t : Node) : t ∈ leaves (.and (.and x y) z) ↔ t ∈ leaves (.and x (.and y z)) := by
  simp [leaves]
theorem leaves_idem (x : Node) (t : Node) : t ∈ leaves (.and x x) ↔ t ∈ leaves x := by
  simp [leaves]
theorem leaves_distrib (x y z : Node) (t : Node) :
    t ∈ leaves (.and x (.or y z)) ↔ t ∈ leaves (.or (.and x y) (.and x z)) := by
  simp only [leaves, List.mem_append]; exact or_or_distrib_left

/-- a non-empty run of spaces inside a text can be replaced by a single space -/
theorem toks_space_run (a sp b : Bytes) (hsp : sp.dropWhile isSp = []) (hb : b.head? ≠ some 43) :
    toks (a ++ 32 :: (sp ++ b)) = toks (a ++ 32 :: b) := by
  have h : toks (32 :: (sp ++ b)) = toks (32 :: b) :=
    (toks_leading_spaces (32 :: sp) b (by simp [isSp, hsp]) hb).trans (toks_cons_space b hb).symm
  rw [toks_append a _ rfl, toks_append a _ rfl, h]

/-- spaces directly after `(` and directly before `)` can be inserted or removed -/
theorem toks_space_after_lparen (a sp b : Bytes) (hsp : sp.dropWhile isSp = []) (hb : b.head? ≠ some 43) :
    toks (a ++ 40 :: (sp ++ b)) = toks (a ++ 40 :: b) := by
  rw [toks_append a _ rfl, toks_append a _ rfl, toks_cons_lparen, toks_cons_lparen,
    toks_leading_spaces sp b hsp hb]

theorem toks_space_before_rparen (a sp b : Bytes) (hsp : sp.dropWhile isSp = []) :
    toks (a ++ (sp ++ 41 :: b)) = toks (a ++ 41 :: b) := by
  rw [toks_append a _ (isBoundary_spaces_append hsp rfl), toks_append a _ rfl, toks_leading_spaces sp _ hsp (by simp)]

/-- **extra spaces never change the result**: every such re-spacing leaves the token sequence, hence the tree, hence
    `Satisfies` and `ExtractLicenses`, unchanged -/
theorem respacing_irrelevant (s s' : Bytes) (L : List Bytes) (h : toks s = toks s') :
    valid s = valid s' ∧ C07.outcome (satisfies s L) = C07.outcome (satisfies s' L) ∧ extract s = extract s' := by
  have ⟨v, st, x, _⟩ := C09.results_of_toks h
  exact ⟨v, congrArg _ (st L), x⟩

section
private def mit : Bytes := [77,73,84]
private def isc : Bytes := [73,83,67]
-- "(MIT) AND (ISC)" against [MIT] and against [MIT, ISC]
example : (match satisfies (andText mit isc) [mit] with | .ok b => !b | .error _ => false) = true := by decide +kernel
example : (match satisfies (andText mit isc) [mit, isc] with | .ok b => b | .error _ => false) = true := by decide +kernel
example : (match satisfies (orText mit isc) [isc] with | .ok b => b | .error _ => false) = true := by decide +kernel
end

end Spdx.C10
