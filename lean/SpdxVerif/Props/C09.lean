/-
C09 — letter case of SPDX identifiers never matters; output casing is canonical.
-/
import SpdxVerif.Lemmas.Listed
namespace Spdx.C09

/-- the case-insensitive `lookup` (`lookup_fold`, Lemmas/Tables) returns the table's own spelling -/
theorem lookup_canonical (tbl : List Bytes) (w c : Bytes) (h : lookup tbl w = some c) : c ∈ tbl ∧ lower c = lower w :=
  lookup_some h

/-- **normalisation of a case variant of a listed id**: any word equal to a listed id up to letter case is
    normalised exactly like the id itself (same tokens, in the list's spelling; same remaining input) -/
theorem normalize_caseVariant (w w' rest : Bytes) (hw : w ∈ Tables.active ++ Tables.deprecated ++ Tables.exceptions)
    (h : lower w' = lower w) : normalize w' rest = normalize w rest := by
  rw [normalize_eq_core, normalize_eq_core, normCore_caseVariant w w' _ hw h]

/-! ### canonical output: every id the scanner emits is spelled as in the lists -/

/-- a token whose id (if it carries a listed id) is a member of the corresponding list, i.e. spelled as in the list -/
def Listed (t : Tok) : Prop :=
  (∀ id, t = .lic id → id ∈ Tables.active ++ Tables.deprecated) ∧
  (∀ id, t = .exc id → id ∈ Tables.exceptions) ∧ (∀ id, t ≠ .docRef id) ∧ (∀ id, t ≠ .licRef id)

theorem licenseLookup_listed (x : Bytes) (t : Tok) (hx : licenseLookup x = some t) : Listed t := by
  rcases licenseLookup_inv hx with ⟨c, rfl, hm, -⟩ | ⟨c, rfl, hm, -⟩ <;> simp [Listed, hm]

/-- every license / exception token produced by the normalisation carries the list's own spelling -/
theorem normalize_tokens_listed (w rest : Bytes) (toks : List Tok) (r : Bytes) (h : normalize w rest = some (toks, r)) :
    ∀ t ∈ toks, Listed t ∨ t = .op .plus := by
  rw [normalize_eq_core] at h
  obtain ⟨⟨tk, k⟩, hn, hp⟩ := Option.map_eq_some_iff.mp h
  obtain ⟨rfl, -⟩ := Prod.mk.inj hp
  cases normCore_inv hn with
  | self ht | only _ _ ht | later _ _ _ ht | plus _ _ _ _ ht => simpa using Or.inl (licenseLookup_listed _ _ ht)
  | deprecated _ _ _ _ hc => simpa [Listed] using Or.inr (lookup_some hc).1

end Spdx.C09
