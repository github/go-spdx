/-
C03 — no argument can make the library panic.

Layer G transliterates the Go code with every operation that can panic made explicit (indexing, slicing, dereferencing
a possibly-nil pointer).  This file states, for the parts in front of and behind the parser: the cursor parser and the
scanner (Model/GoShaped, Model/GoScan) never panic and compute what the main model computes, for EVERY token sequence and
every byte string; the nil dereferences and the index / slice / in-place-write loops of satisfies.go (Model/GoDeref,
Model/GoSlices) stay in range and compute the model's values; and the inventory of partial operations in the source.
Matching with pointers is in Props/C03Match, the three entry points end to end in Props/C03Api.  The tie to the source is
(i) the driver's `Q` operation (outcome class of this model vs the implementation on the systematic malformed stream) and
(ii) the census of partial operations regenerated from the source on every run, compared below with the inventory this
file accounts for.
-/
import SpdxVerif.Lemmas.GoSlices
import SpdxVerif.Lemmas.GoScanRefine
import SpdxVerif.Spec.Census
namespace Spdx.C03

/-- the Go-shaped parser returns normally on every token sequence -/
theorem g_parseTokens_never_panics (toks : List Tok) : G.parseTokens toks ≠ .panic :=
  G.Out.IsOk.ne_panic ⟨_, G.parseTokens_G_eq toks⟩

/-- the Go-shaped SCANNER (private buffer, integer cursor, `expression[index-2:index-1]` look-behind, the six slice
    expressions of `normalizeLicense` including the buffer rewrite) returns normally on every byte string -/
theorem g_scan_never_panics (s : Bytes) : G.scanG s ≠ .panic := G.Out.IsOk.ne_panic ⟨_, G.scanG_eq s⟩

/-- behind the parser: `reconstructedLicenseString()` returns nil for expression nodes and is dereferenced without a check by
    `ExtractLicenses`, `sortAndDedup`, `deepSort` and `sortLicenses`; only terms ever reach those dereferences -/
theorem g_extract_never_derefs_nil (s : Bytes) (n : Node) (_h : parse s = .ok n) : G.extractG n ≠ .panic :=
  G.Out.IsOk.ne_panic ⟨_, G.extractG_ok n⟩

theorem g_satisfies_never_derefs_nil (e : Bytes) (L : List Bytes) (n : Node) (A : List Node)
    (_he : parse e = .ok n) (hA : toNodes L = .ok A) : G.satisfiesKeysG n A ≠ .panic :=
  G.Out.IsOk.ne_panic ⟨_, G.satisfiesKeysG_ok n L A hA⟩

/-- … and the dereference IS a panic on an expression node (the layer can express the defect) -/
example : (match G.renderG (.and (.lic [77,73,84] false none) (.lic [73,83,67] false none)) with | .panic => true | .ok _ => false) = true := by
  decide

/-- each cursor-reading helper on its own, for every cursor position (including past the end) -/
theorem g_helpers_never_panic (t : G.TS) (o : Op) :
    G.parseOperator o t ≠ .panic ∧ G.parseWith t ≠ .panic ∧ G.parseLicense t ≠ .panic ∧ G.parseLicenseRef t ≠ .panic :=
  ⟨(G.parseOperator_ok o t).ne_panic, (G.parseWith_ok t).ne_panic, (G.parseLicense_ok t).ne_panic,
    (G.parseLicenseRef_ok t).ne_panic⟩

/-- the model's entry points are total functions: every argument yields a result or an error value -/
theorem api_total (e : Bytes) (l : List Bytes) :
    (∃ b, satisfies e l = .ok b) ∨ (∃ err, satisfies e l = .error err) := by
  cases satisfies e l <;> simp

/-! ### the layer can express the defect: without the nil guard, the end of the token stream IS a panic -/

/-- `parseOperator` as it was before the repair: `token.role` read without `token != nil` -/
def parseOperatorUnguarded (o : Op) (t : G.TS) : G.Out (Bool × G.TS) :=
  (G.peek t).bind fun tok => (G.deref tok).bind fun x => if x = .op o then .ok (true, G.next t) else .ok (false, t)

example : (match parseOperatorUnguarded .lparen ⟨[], 0, false⟩ with | .panic => true | .ok _ => false) = true := by decide
example : (match G.parseOperator .lparen ⟨[], 0, false⟩ with | .panic => true | .ok _ => false) = false := by decide
-- "(" : the unrepaired parser read past the end here
example : (match G.parse [40] with | .ok none => true | _ => false) = true := by decide +kernel
-- "MIT WITH", "DocumentRef-a", "DocumentRef-a:"
example : (match G.parse [77,73,84,32,87,73,84,72] with | .ok none => true | _ => false) = true := by decide +kernel
example : (match G.parse [68,111,99,117,109,101,110,116,82,101,102,45,97] with | .ok none => true | _ => false) = true := by decide +kernel
example : (match G.parse [68,111,99,117,109,101,110,116,82,101,102,45,97,58] with | .ok none => true | _ => false) = true := by decide +kernel

-- the look-behind without its `index > 1` guard: `"+"` at offset 0 would read `expression[-1:0]`
example : (match G.sl [43] ((1 : Int) - 2) ((1 : Int) - 1) with | .panic => true | .ok _ => false) = true := by decide
-- the rewrite's `expression[0:index-9]` is safe only because the word just read ends at the cursor
example : (match G.sl [45,111,114] 0 ((3 : Int) - 9) with | .panic => true | .ok _ => false) = true := by decide
-- the Go-shaped pipeline on texts that exercise the rewrite and the look-behind
example : (match G.parseG (str "Apache-2.0-or-later+ AND (MIT +)") with | .ok none => true | _ => false) = true := by decide +kernel
example : (match G.parseG (str "(Apache-2.0-or-later) AND MIT") with | .ok (some _) => true | _ => false) = true := by decide +kernel

/-! ### the Go-shaped scanner refines the scanner of the main model -/

/-- **refinement**: private buffer, integer cursor, the `-or-later` buffer rewrite
    (`expression[0:index-9] + "+" + TrimPrefix(expression[index:], "+")`, `index -= 9`) and the one-byte look-behind for `+`
    yield, on EVERY byte string, exactly the token sequence of the suffix-based scanner that all other theorems are about
    (`none` = an error was returned) -/
theorem g_scan_refines (s : Bytes) : G.scanG s = .ok (toks s) := G.scanG_eq s

/-- hence the fully Go-shaped `parse` is the Go-shaped parser run on the main model's tokens -/
theorem g_parseG_eq_parse (s : Bytes) : G.parseG s = G.parse s := by
  unfold G.parseG G.parse
  split
  · rfl
  · rw [G.scanG_eq s]
    simp only [G.bind_ok, toks]
    cases scan s <;> rfl

/-- **refinement**: the Go-shaped parser (token cursor, `peek` returning a nil-able pointer, `next`, the error flag, the
    diagnostics that only choose an error text) accepts exactly the documented grammar … -/
theorem g_parseTokens_iff_grammar (ts : List Tok) (n : Node) : G.parseTokens ts = .ok (some n) ↔ D .expr ts n :=
  G.parseTokens_G_iff ts n

/-- … because it computes what the list-based parser of the main model computes -/
theorem g_parseTokens_refines (ts : List Tok) : G.parseTokens ts = .ok (parseTokens ts) := G.parseTokens_G_eq ts

/-- **the whole Go-shaped `parse` = the main model's `parse`** (scanner with buffer rewrite + cursor parser), for every
    byte string: all string-level theorems of C01–C12 and C15 about `parse` hold of the transliteration of the Go code -/
theorem g_parse_refines (s : Bytes) :
    G.parseG s = .ok (match parse s with | .ok n => some n | .error _ => none) := by
  rw [g_parseG_eq_parse]
  unfold G.parse parse
  split
  · rfl
  · cases scan s with
    | error e => rfl
    | ok ts =>
      simp only
      rw [G.parseTokens_G_eq ts]
      cases parseTokens ts <;> rfl

/-- the Go-shaped `parse` (cursor parser on the main model's tokens) returns normally on every byte string -/
theorem g_parse_never_panics (s : Bytes) : G.parse s ≠ .panic :=
  G.Out.IsOk.ne_panic ⟨_, (g_parseG_eq_parse s).symm.trans (g_parse_refines s)⟩

/-- … and so the whole Go-shaped `parse` — scanner + token cursor + parser — returns normally on every byte string -/
theorem g_parse_full_never_panics (s : Bytes) : G.parseG s ≠ .panic := G.Out.IsOk.ne_panic ⟨_, g_parse_refines s⟩

/-! ### the index and slice expressions behind the parser (satisfies.go), Go-shaped (Model/GoSlices.lean) -/

/-- `sortAndDedup`: `nodes[curr-1]`, `nodes[curr]`, `nodes[prev] = …`, `nodes[:prev]` and the dereferenced strings stay in
    range on every allowed list that `stringsToNodes` lets through (terms only, any length, any repeats), and the array
    it leaves behind is the one the main model's `Satisfies` searches (refinement of `sortAndDedupArray`) -/
theorem g_sortAndDedup_refines (L : List Bytes) (A : List Node) (hA : toNodes L = .ok A) :
    ∃ front, G.sortAndDedupG A = .ok (sortAndDedupArray A, front) :=
  G.sortAndDedupG_eq A (fun x hx => (toNodes_leafOK hA x hx).2)

/-- … so none of them makes it panic -/
theorem g_sortAndDedup_never_panics (L : List Bytes) (A : List Node) (hA : toNodes L = .ok A) : G.sortAndDedupG A ≠ .panic :=
  let ⟨_, h⟩ := g_sortAndDedup_refines L A hA
  G.Out.IsOk.ne_panic ⟨_, h⟩

/-- the comparator of `deepSort`'s outer sort, on any two alternatives of any expansion: `nodes2d[i][k]` is read only for
    `k < len(nodes2d[i])`, and the result is the model's element-wise order -/
theorem g_deepSort_comparator (a b : List Node) (hla : ∀ x ∈ a, x.isLeaf = true) (hlb : ∀ x ∈ b, x.isLeaf = true) :
    G.lessG b.length a b 0 = .ok (listLt (a.map render) (b.map render)) :=
  G.lessG_ok b.length a b 0 hla hlb (by omega)

theorem g_deepSort_comparator_never_panics (a b : List Node)
    (hla : ∀ x ∈ a, x.isLeaf = true) (hlb : ∀ x ∈ b, x.isLeaf = true) : G.lessG b.length a b 0 ≠ .panic :=
  G.Out.IsOk.ne_panic ⟨_, g_deepSort_comparator a b hla hlb⟩

theorem g_deepSort_guard_never_panics (ll : List (List Node)) : G.deepSortGuardG ll ≠ .panic :=
  G.Out.IsOk.ne_panic (G.deepSortGuardG_ok ll)

/-- `mergeTerms`: `results[j] = append(l, r...)` stays inside `results`, and the result is the model's `mergeTerms` -/
theorem g_mergeTerms_refines (L R : List (List Node)) : G.mergeTermsG L R = .ok (mergeTerms L R) := G.mergeTermsG_ok L R

/-- `stringsToNodes`: `nodes[i] = node` for `i` over `range licenses` into `make([]*node, len(licenses))` -/
theorem g_stringsToNodes_fill_never_panics {α} (xs : List α) : G.fillG xs.length (List.replicate xs.length none) xs 0 ≠ .panic := by
  obtain ⟨out, h, _⟩ := G.fillG_ok xs.length (List.replicate xs.length none) xs 0 (by simp)
  exact G.Out.IsOk.ne_panic ⟨_, h⟩

-- the layer expresses the defects: an index at the length, a write at the length, a slice beyond the length are panics
example : (match G.idx [1, 2] 2 with | .panic => true | .ok _ => false) = true := by decide
example : (match G.setIdx [1] 1 0 with | .panic => true | .ok _ => false) = true := by decide
example : (match G.slicePrefix [1, 2] 3 with | .panic => true | .ok _ => false) = true := by decide
-- … and the comparator without its `k >= len(nodes2d[i])` test would index past the shorter alternative
example : (match G.idx ([] : List Node) 0 with | .panic => true | .ok _ => false) = true := by decide
-- a concrete allowed list with repeats: the loop runs, compacts and slices
example : (match G.sortAndDedupG [.lic [77,73,84] false none, .lic [73,83,67] false none, .lic [77,73,84] false none] with
    | .ok (arr, front) => arr.length == 3 && front.length == 2 | .panic => false) = true := by decide +kernel

/-! ### inventory of partial operations in the source (regenerated census) -/

def name (s : String) : Bytes := s.toUTF8.toList.map (·.toNat)

/-- functions of package spdxexp that contain an index expression, with the number of such expressions.
    Each is accounted for: `peek` (guarded by `hasMore`, layer G); map reads/writes in `sameLicenseGroup`,
    `compareGT/LT/EQ`, `removeDuplicateStrings` (never panic); `nodes[i]`/`nodes2d[i][k]` inside sort comparators
    (indices supplied by `sort.Slice`, `k` guarded against `len(nodes2d[i])`); `stringsToNodes` (`nodes[i]`, `i` from
    `range`); `mergeTerms` / `sortAndDedup` (loop-bounded indices); `parseToken` (dead branch); `readRegex`
    (`i[0]`, `i[1]` of a non-nil match). -/
def indexSites : List (Bytes × Nat) :=
  (Census.partialOps.filter (fun p => !Nat.beq p.2.2.1 0)).map (fun p => (p.2.1, p.2.2.1))

/-- … and the functions that contain a slice expression (all guarded: `exp.index > 1`, `hasMore()`, `HasSuffix`). -/
def sliceSites : List (Bytes × Nat) :=
  (Census.partialOps.filter (fun p => !Nat.beq p.2.2.2.1 0)).map (fun p => (p.2.1, p.2.2.2.1))

def typeAssertsAndDivisions : Nat :=
  (Census.partialOps.map (fun p => p.2.2.2.2.2.1 + p.2.2.2.2.2.2)).sum

/-- every site of the source is accounted for: each function that contains such expressions is listed, with at least as many
    of them (a function that LOSES an index or slice expression needs no new argument; one that gains one does) -/
def sitesCovered (actual expected : List (Bytes × Nat)) : Bool :=
  actual.all (fun a => expected.any (fun e => beqBytes a.1 e.1 && Nat.ble a.2 e.2))

def beqSites (actual expected : List (Bytes × Nat)) : Bool := sitesCovered actual expected

/-- the index expressions of the source are among the ones accounted for above: a new `x[i]` anywhere in the package
    breaks this obligation until it has been looked at -/
theorem index_sites_accounted : beqSites indexSites
    [([99,111,109,112,97,114,101,71,84], 2), ([99,111,109,112,97,114,101,76,84], 2), ([99,111,109,112,97,114,101,69,81], 2),
     ([115,97,109,101,76,105,99,101,110,115,101,71,114,111,117,112], 2),
     ([114,101,109,111,118,101,68,117,112,108,105,99,97,116,101,83,116,114,105,110,103,115], 2),
     ([115,111,114,116,76,105,99,101,110,115,101,115], 4),
     ([116,111,107,101,110,83,116,114,101,97,109,46,112,101,101,107], 1),
     ([115,116,114,105,110,103,115,84,111,78,111,100,101,115], 1),
     ([109,101,114,103,101,84,101,114,109,115], 1),
     ([115,111,114,116,65,110,100,68,101,100,117,112], 4),
     ([100,101,101,112,83,111,114,116], 7),
     ([101,120,112,114,101,115,115,105,111,110,83,116,114,101,97,109,46,112,97,114,115,101,84,111,107,101,110], 1),
     ([101,120,112,114,101,115,115,105,111,110,83,116,114,101,97,109,46,114,101,97,100,82,101,103,101,120], 4)] = true := by
  decide +kernel

/-- likewise the slice expressions: simplifyLicense (after HasSuffix), sortAndDedup (`nodes[:prev]`, prev ≤ len),
    readRegex (×2, `[exp.index:]` with index ≤ len, `[0:i[1]]` of a match), read (`[exp.index:]`),
    readOperator (`[index-2:index-1]` after `index > 1`), normalizeLicense (×6, after HasSuffix / hasMore) -/
theorem slice_sites_accounted : beqSites sliceSites
    [([115,105,109,112,108,105,102,121,76,105,99,101,110,115,101], 1),
     ([115,111,114,116,65,110,100,68,101,100,117,112], 1),
     ([101,120,112,114,101,115,115,105,111,110,83,116,114,101,97,109,46,114,101,97,100,82,101,103,101,120], 2),
     ([101,120,112,114,101,115,115,105,111,110,83,116,114,101,97,109,46,114,101,97,100], 1),
     ([101,120,112,114,101,115,115,105,111,110,83,116,114,101,97,109,46,114,101,97,100,79,112,101,114,97,116,111,114], 1),
     ([101,120,112,114,101,115,115,105,111,110,83,116,114,101,97,109,46,110,111,114,109,97,108,105,122,101,76,105,99,101,110,115,101], 6)] = true := by
  decide +kernel

/-- no type assertion, no division or remainder anywhere in the package -/
theorem no_type_assertions_or_divisions : typeAssertsAndDivisions = 0 := by decide +kernel

end Spdx.C03
