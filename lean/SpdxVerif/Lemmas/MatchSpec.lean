/-
Lemmas/MatchSpec — on terms produced by the parser, the `EqualFold` shortcut of `licensesAreCompatible` fires only for
identical terms, so `matchLeaf` is the documented rule `C02.specMatch`: matching depends on a licence id only through
its position in the range table (and identity).
-/
import SpdxVerif.Lemmas.AllowedList
namespace Spdx

def licTail (p : Bool) (e : Option Bytes) : Bytes :=
  (if p then bPlus else []) ++ (match e with | some x => bWith ++ x | none => [])

theorem render_lic (a : Bytes) (p : Bool) (e : Option Bytes) : render (.lic a p e) = a ++ licTail p e := by
  cases e <;> simp [render, licTail]

theorem lower_licTail (p : Bool) (e : Option Bytes) :
    lower (licTail p e) = (if p then [43] else []) ++ (match e with | some x => [32,119,105,116,104,32] ++ lower x | none => []) := by
  cases p <;> cases e <;> simp [licTail, lower, bPlus, bWith, lowerC]

theorem stops_lower_licTail (p : Bool) (e : Option Bytes) : Stops (lower (licTail p e)) := by
  rw [lower_licTail]
  cases p with
  | true => exact stops_cons (by decide)
  | false => cases e with
    | none => exact stops_nil
    | some x => exact stops_cons (by decide)

/-- the id is the longest run of id bytes at the head of a term's text (`run_eq`), so texts that are equal up to
    letter case split alike -/
theorem lower_render_lic {a b : Bytes} {pa pb : Bool} {ea eb : Option Bytes} (ha : allId a = true) (hb : allId b = true)
    (h : foldEq (render (.lic a pa ea)) (render (.lic b pb eb)) = true) :
    lower a = lower b ∧ lower (licTail pa ea) = lower (licTail pb eb) := by
  rw [foldEq_iff, render_lic, render_lic, lower_append, lower_append] at h
  have t1 := run_eq _ (lower a) (lower (licTail pa ea)) ((lower_allId a).trans ha) (stops_lower_licTail pa ea)
  have t2 := run_eq _ (lower b) (lower (licTail pb eb)) ((lower_allId b).trans hb) (stops_lower_licTail pb eb)
  rw [h] at t1
  exact ⟨t1.1.symm.trans t2.1, t1.2.symm.trans t2.2⟩

theorem lower_licTail_inj {pa pb : Bool} {ea eb : Option Bytes} (h : lower (licTail pa ea) = lower (licTail pb eb)) :
    pa = pb ∧ ea.map lower = eb.map lower := by
  rw [lower_licTail, lower_licTail] at h
  -- the leading bytes tell the four shapes apart (a `+` is 43, ` with ` begins with 32, or there is no byte at all); behind
  -- ` with ` stand the exceptions
  cases pa <;> cases pb <;> cases ea <;> cases eb <;> simp_all

/-- **the `EqualFold` shortcut fires only for identical terms** (licence terms produced by the parser: ids spelled as in
    the lists, which are distinct up to letter case) -/
theorem render_fold_inj (a b : Bytes) (pa pb : Bool) (ea eb : Option Bytes)
    (hx : LeafOK (.lic a pa ea)) (hy : LeafOK (.lic b pb eb))
    (h : foldEq (render (.lic a pa ea)) (render (.lic b pb eb)) = true) : a = b ∧ pa = pb ∧ ea = eb := by
  obtain ⟨ha, _, _, hea⟩ := hx
  obtain ⟨hb, _, _, heb⟩ := hy
  obtain ⟨hab, htl⟩ := lower_render_lic ha.allId hb.allId h
  obtain ⟨hp, he⟩ := lower_licTail_inj htl
  refine ⟨foldDistinct_inj (foldDistinct_append_left C09.lists_fold_distinct) ha.mem hb.mem hab, hp, ?_⟩
  match ea, eb, he, hea, heb with
  | none, none, _, _, _ => rfl
  | some x, some y, he, hea, heb =>
    rw [foldDistinct_inj exceptions_distinct (hea x rfl).mem (heb y rfl).mem (Option.some.inj he)]

namespace C02

/-- the documented single-term matching rule -/
def specMatch : Node → Node → Bool
  | .lic a pa ea, .lic b pb eb => (ea == eb) && (a == b || versionRule a b pa pb)
  | .ref da a, .ref db b => a == b && da == db
  | _, _ => false

/-- **C02.** For any two terms produced by the parser (`LeafOK`: every term of every valid expression and every valid
allowed entry, by `parse_leavesOK`), the implementation's matching decision is the documented rule: refs need identical
LicenseRef and identical-or-absent DocumentRef; a licence never matches a ref; licences need identical exceptions and then
either the same id, or ids of the same family with equal versions (no `+`), the `+` side not later than the other
(one `+`), or anything in the family (both `+`). -/
theorem matchLeaf_eq_spec (x y : Node) (hx : LeafOK x) (hy : LeafOK y) (lx : x.isLeaf = true) (ly : y.isLeaf = true) :
    matchLeaf x y = specMatch x y := by
  cases x with
  | and | or => cases lx
  | ref => cases y with
    | and | or => cases ly
    | lic | ref => rfl
  | lic a pa ea => cases y with
    | and | or => cases ly
    | ref => rfl
    | lic b pb eb =>
      rw [matchLeaf_lic, specMatch]
      -- the `EqualFold` shortcut fires only for identical terms, where `a == b` holds anyway
      cases hf : foldEq (render (.lic a pa ea)) (render (.lic b pb eb)) with
      | false => simp
      | true => simp [(render_fold_inj a b pa pb ea eb hx hy hf).1]

/-- C02 (`matchLeaf_eq_spec`) between every term of a valid expression and every valid allowed entry -/
theorem matchLeaf_eq_spec_parsed (e x : Bytes) (n t a : Node) (he : parse e = .ok n) (ht : t ∈ leaves n)
    (ha : leafOf x = some a) : matchLeaf t a = specMatch t a :=
  matchLeaf_eq_spec t a (parse_leavesOK e n he t ht) (leafOf_leafOK ha) (leaves_isLeaf n t ht) (leafOf_eq_some.mp ha).2

end C02

end Spdx
