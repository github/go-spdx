/-
Lemmas/TokenSwap — replacing licence tokens by matching-equivalent ones (same position in the range table) keeps the
token sequence grammatical, with a tree that differs only in those terms (`D_swap`), and single-term matching cannot tell
such terms apart (`matchLeaf_idEquiv`).
-/
import SpdxVerif.Lemmas.OnlySpelling
import SpdxVerif.Lemmas.MatchSpec
namespace Spdx

theorem IdEquiv.symm {a b : Bytes} (h : IdEquiv a b) : IdEquiv b a := by
  rcases h with rfl | ⟨h1, h2, h3⟩
  · exact Or.inl rfl
  · exact Or.inr ⟨by rw [posEqSome_symm]; exact h1, h3, h2⟩

inductive TokRel : Tok → Tok → Prop
  | refl (t : Tok) : TokRel t t
  | swap (a b : Bytes) : IdEquiv a b → TokRel (.lic a) (.lic b)

theorem TokRel.symm {t t' : Tok} (h : TokRel t t') : TokRel t' t := by
  cases h with
  | refl => exact .refl _
  | swap a b hab => exact .swap b a hab.symm

inductive TR : List Tok → List Tok → Prop
  | nil : TR [] []
  | cons {t t' : Tok} {xs ys : List Tok} : TokRel t t' → TR xs ys → TR (t :: xs) (t' :: ys)

theorem TR.refl (l : List Tok) : TR l l := by
  induction l with
  | nil => exact .nil
  | cons t l ih => exact .cons (.refl t) ih

theorem TR.symm {a b : List Tok} (h : TR a b) : TR b a := by
  induction h with
  | nil => exact .nil
  | cons h _ ih => exact .cons h.symm ih

theorem TR.append {a a' b b' : List Tok} (h1 : TR a a') (h2 : TR b b') : TR (a ++ b) (a' ++ b') := by
  induction h1 with
  | nil => exact h2
  | cons h _ ih => exact .cons h ih

theorem TR.split {a b ts' : List Tok} {t : Tok} (h : TR (a ++ t :: b) ts') :
    ∃ a' t' b', ts' = a' ++ t' :: b' ∧ TR a a' ∧ TokRel t t' ∧ TR b b' := by
  induction a generalizing ts' with
  | nil => obtain _ | ⟨ht, hb⟩ := h; exact ⟨[], _, _, rfl, .nil, ht, hb⟩
  | cons u a ih =>
    obtain _ | ⟨hu, hr⟩ := h
    obtain ⟨a', t', b', rfl, h1, h2, h3⟩ := ih hr
    exact ⟨_ :: a', t', b', rfl, .cons hu h1, h2, h3⟩

theorem TokRel.lic_inv {a : Bytes} {t : Tok} (h : TokRel (.lic a) t) : ∃ b, t = .lic b ∧ IdEquiv a b := by
  cases h with
  | refl => exact ⟨a, rfl, Or.inl rfl⟩
  | swap _ b hab => exact ⟨b, rfl, hab⟩

inductive NodeRel : Node → Node → Prop
  | lic (a b : Bytes) (p : Bool) (e : Option Bytes) : IdEquiv a b → NodeRel (.lic a p e) (.lic b p e)
  | ref (d : Option Bytes) (r : Bytes) : NodeRel (.ref d r) (.ref d r)
  | and {l l' r r' : Node} : NodeRel l l' → NodeRel r r' → NodeRel (.and l r) (.and l' r')
  | or {l l' r r' : Node} : NodeRel l l' → NodeRel r r' → NodeRel (.or l r) (.or l' r')

theorem IdEquiv.suffix_eq {a b : Bytes} (h : IdEquiv a b) : sufOrLater.isSuffixOf a = sufOrLater.isSuffixOf b := by
  rcases h with rfl | ⟨_, h2, h3⟩
  · rfl
  · rw [h2, h3]

theorem D_swap {lv : Lvl} {ts : List Tok} {n : Node} (h : D lv ts n) :
    ∀ ts', TR ts ts' → ∃ n', D lv ts' n' ∧ NodeRel n n' := by
  -- `TR` from a literal token list is read off position by position: `_ | ⟨h, rest⟩` stands for `nil | cons h rest`, and
  -- `⟨⟩` in the place of `h` says that a token which is no licence is related to itself only
  induction h with
  | ref0 r => rintro _ (_ | ⟨⟨⟩, ⟨⟩⟩); exact ⟨_, .ref0 r, .ref none r⟩
  | ref1 d r => rintro _ (_ | ⟨⟨⟩, _ | ⟨⟨⟩, _ | ⟨⟨⟩, ⟨⟩⟩⟩⟩); exact ⟨_, .ref1 d r, .ref (some d) r⟩
  | lic id =>
    rintro _ (_ | ⟨h1, ⟨⟩⟩)
    obtain ⟨b, rfl, hab⟩ := h1.lic_inv
    exact ⟨_, .lic b, hab.suffix_eq ▸ .lic id b _ none hab⟩
  | licP id =>
    rintro _ (_ | ⟨h1, _ | ⟨⟨⟩, ⟨⟩⟩⟩)
    obtain ⟨b, rfl, hab⟩ := h1.lic_inv
    exact ⟨_, .licP b, .lic id b true none hab⟩
  | licW id e =>
    rintro _ (_ | ⟨h1, _ | ⟨⟨⟩, _ | ⟨⟨⟩, ⟨⟩⟩⟩⟩)
    obtain ⟨b, rfl, hab⟩ := h1.lic_inv
    exact ⟨_, .licW b e, hab.suffix_eq ▸ .lic id b _ (some e) hab⟩
  | licPW id e =>
    rintro _ (_ | ⟨h1, _ | ⟨⟨⟩, _ | ⟨⟨⟩, _ | ⟨⟨⟩, ⟨⟩⟩⟩⟩⟩)
    obtain ⟨b, rfl, hab⟩ := h1.lic_inv
    exact ⟨_, .licPW b e, .lic id b true (some e) hab⟩
  | @paren ts n _ ih =>
    rintro _ (_ | ⟨⟨⟩, h2⟩)
    obtain ⟨a', _, _, rfl, ha, ⟨⟩, ⟨⟩⟩ := TR.split h2
    obtain ⟨n', hd, hr⟩ := ih a' ha
    exact ⟨n', .paren hd, hr⟩
  | and1 _ ih => intro ts' h; obtain ⟨n', hd, hr⟩ := ih ts' h; exact ⟨n', .and1 hd, hr⟩
  | or1 _ ih => intro ts' h; obtain ⟨n', hd, hr⟩ := ih ts' h; exact ⟨n', .or1 hd, hr⟩
  | andC _ _ iha ihb =>
    intro ts' h
    obtain ⟨a', _, _, rfl, ha, ⟨⟩, h2⟩ := TR.split h
    obtain ⟨l', hdl, hrl⟩ := iha a' ha
    obtain ⟨r', hdr, hrr⟩ := ihb _ h2
    exact ⟨_, .andC hdl hdr, .and hrl hrr⟩
  | orC _ _ iha ihb =>
    intro ts' h
    obtain ⟨a', _, _, rfl, ha, ⟨⟩, h2⟩ := TR.split h
    obtain ⟨l', hdl, hrl⟩ := iha a' ha
    obtain ⟨r', hdr, hrr⟩ := ihb _ h2
    exact ⟨_, .orC hdl hdr, .or hrl hrr⟩

theorem versionRule_same_pos {a c : Bytes} {q : Nat × Nat} (ha : pos a = some q) (hc : pos c = some q) (p pc : Bool) :
    C02.versionRule a c p pc = true := by
  rw [C02.versionRule, ha, hc]
  cases p <;> cases pc <;> simp

theorem matchLeaf_idEquiv (a b : Bytes) (p : Bool) (e : Option Bytes) (y : Node) (hab : IdEquiv a b)
    (ha : LeafOK (.lic a p e)) (hb : LeafOK (.lic b p e)) (hy : LeafOK y) (ly : y.isLeaf = true) :
    matchLeaf (.lic a p e) y = matchLeaf (.lic b p e) y := by
  rcases hab with rfl | ⟨hpos, -, -⟩
  · rfl
  · obtain ⟨q, hqa, hqb⟩ := posEqSome_iff.mp hpos
    rw [C02.matchLeaf_eq_spec _ y ha hy rfl ly, C02.matchLeaf_eq_spec _ y hb hy rfl ly]
    cases y with
    | and | or => cases ly
    | ref => rfl
    | lic c pc ec =>
      -- the rule sees `a` and `b` only through their common position, and it holds if `c` is one of them
      have hV : C02.versionRule a c p pc = C02.versionRule b c p pc := by rw [C02.versionRule, C02.versionRule, hqa, hqb]
      have hT : a = c ∨ b = c → C02.versionRule b c p pc = true := by
        rintro (rfl | rfl)
        · exact versionRule_same_pos hqb hqa p pc
        · exact versionRule_same_pos hqb hqb p pc
      simp only [C02.specMatch, hV]
      by_cases h : a = c ∨ b = c
      · rw [hT h, Bool.or_true, Bool.or_true]
      · rw [not_or] at h
        rw [beq_eq_false_iff_ne.mpr h.1, beq_eq_false_iff_ne.mpr h.2]

end Spdx
