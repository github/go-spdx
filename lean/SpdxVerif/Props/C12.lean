/-
C12 — the shipped license tables are exactly what the SPDX source data says.
All statements are about the REGENERATED modules Gen/Tables, Gen/Json, Gen/GenFiles: they are re-proved by the
kernel whenever the tables, the JSON files, the generator templates or the committed files change.
-/
import SpdxVerif.Lemmas.Listed
import SpdxVerif.Gen.Json
import SpdxVerif.Gen.GenFiles
namespace Spdx.C12

def jsonActive : List Bytes := (Json.licenses.filter (fun p => !p.2)).map (·.1)
def jsonDeprecated : List Bytes := (Json.licenses.filter (fun p => p.2)).map (·.1)
def jsonExceptions : List Bytes := (Json.exceptions.filter (fun p => !p.2)).map (·.1)

/-- every non-deprecated license id is active, every deprecated one is deprecated, every non-deprecated exception
    id is an exception — nothing else, in the same order -/
theorem active_eq_json : Tables.active = jsonActive :=
  beqList_eq (by decide +kernel)
theorem deprecated_eq_json : Tables.deprecated = jsonDeprecated :=
  beqList_eq (by decide +kernel)
theorem exceptions_eq_json : Tables.exceptions = jsonExceptions :=
  beqList_eq (by decide +kernel)

/-- split after every newline (each piece keeps its terminating newline) -/
def splitLinesAux : Bytes → Bytes → List Bytes
  | [], [] => []
  | [], cur => [cur.reverse]
  | c :: cs, cur => if Nat.beq c 10 then (c :: cur).reverse :: splitLinesAux cs [] else splitLinesAux cs (c :: cur)
def splitLines (s : Bytes) : List Bytes := splitLinesAux s []

theorem flatten_splitLinesAux (s cur : Bytes) : (splitLinesAux s cur).flatten = cur.reverse ++ s := by
  induction s generalizing cur with
  | nil => cases cur <;> simp [splitLinesAux]
  | cons c cs ih =>
    simp only [splitLinesAux]
    split <;> simp [ih]

/-- joining the pieces gives the text back: equality of line lists below IS byte-for-byte equality of the files -/
theorem flatten_splitLines (s : Bytes) : (splitLines s).flatten = s := by
  simp [splitLines, flatten_splitLinesAux]

/-- the generator's template, as lines: header, one line per id, footer -/
def renderGoLines (header linePre linePost footer : Bytes) (ids : List Bytes) : List Bytes :=
  splitLines header ++ ids.map (fun id => linePre ++ id ++ linePost) ++ splitLines footer

/-- the bytes the generator writes: `header ++ (linePre ++ id ++ linePost)* ++ footer` -/
def renderGo (header linePre linePost footer : Bytes) (ids : List Bytes) : Bytes :=
  header ++ (ids.map (fun id => linePre ++ id ++ linePost)).flatten ++ footer

theorem renderGoLines_flatten (h a b f : Bytes) (ids : List Bytes) :
    (renderGoLines h a b f ids).flatten = renderGo h a b f ids := by
  simp [renderGoLines, renderGo, flatten_splitLines]

theorem renderGo_eq_of_lines {h a b f : Bytes} {ids lines : List Bytes}
    (hl : beqList (renderGoLines h a b f ids) lines = true) : renderGo h a b f ids = lines.flatten := by
  rw [← renderGoLines_flatten, beqList_eq hl]

/-- **re-running the generator reproduces the committed files byte for byte** (template literals extracted from
    cmd/license.go and cmd/exceptions.go, ids from the JSON files, lines of the committed files) -/
theorem get_licenses_go_exact :
    renderGo (GenFiles.extractLicenseIDs_headers.getD 0 []) (GenFiles.extractLicenseIDs_appended.getD 0 [])
      (GenFiles.extractLicenseIDs_appended.getD 1 []) (GenFiles.extractLicenseIDs_appended.getD 2 []) jsonActive
    = GenFiles.getLicensesGoLines.flatten :=
  renderGo_eq_of_lines (by decide +kernel)
theorem get_deprecated_go_exact :
    renderGo (GenFiles.extractLicenseIDs_headers.getD 1 []) (GenFiles.extractLicenseIDs_appended.getD 3 [])
      (GenFiles.extractLicenseIDs_appended.getD 4 []) (GenFiles.extractLicenseIDs_appended.getD 5 []) jsonDeprecated
    = GenFiles.getDeprecatedGoLines.flatten :=
  renderGo_eq_of_lines (by decide +kernel)
theorem get_exceptions_go_exact :
    renderGo (GenFiles.extractExceptionLicenseIDs_headers.getD 0 []) (GenFiles.extractExceptionLicenseIDs_appended.getD 0 [])
      (GenFiles.extractExceptionLicenseIDs_appended.getD 1 []) (GenFiles.extractExceptionLicenseIDs_appended.getD 2 []) jsonExceptions
    = GenFiles.getExceptionsGoLines.flatten :=
  renderGo_eq_of_lines (by decide +kernel)

end Spdx.C12
