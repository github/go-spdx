/-
C08 (word level) — equivalent spellings of a license: the two sweeps over the active ids in the spelling of the lists, as
corollaries of the letter-case-insensitive table obligations, and what `normalize` makes of `X-only`, `X+`, `X-or-later`.
-/
import SpdxVerif.Spec.Version
import SpdxVerif.Props.C02
import SpdxVerif.Lemmas.OnlySpelling
namespace Spdx.C08

/-- every ACTIVE `B-only` whose base `B` is itself a listed id shares `B`'s position in the range table
    (so that `B` and `B-only` are interchangeable in version comparisons) -/
def onlySharesGroup : Bool :=
  Tables.active.all (fun x =>
    match stripSuffix? x sufOnly with
    | none => true
    | some b => if listedLicense b then
        (match pos x, pos b with
         | some (i, j), some (k, l) => Nat.beq i k && Nat.beq j l
         | _, _ => false)
      else true)

theorem only_shares_group : onlySharesGroup = true := by
  refine List.all_eq_true.mpr fun x hx => ?_
  cases hs : stripSuffix? x sufOnly with
  | none => rfl
  | some b =>
    obtain ⟨-, -, -, hpos⟩ := only_base hx (congrArg lower (stripSuffix_some_iff.mp hs))
    simp only
    split
    next hl =>
      simp only [listedLicense, listedLicense.bytesIn', Bool.or_eq_true, any_beqBytes] at hl
      -- the `match` of the goal is `posEqSome x b` written out
      exact hpos b (List.mem_append.mpr hl) rfl
    · rfl

/-- no ACTIVE id `X` has an active `X-or-later` beside it: whenever `X-or-later` is listed, `X` is neither an active nor an
    exception id (it is deprecated or not listed at all), so `X+` and `X-or-later` scan to the very same token -/
def noActiveBaseOfOrLater : Bool :=
  Tables.active.all (fun x =>
    match stripSuffix? x sufOrLater with
    | none => true
    | some b => !(Tables.active.any (beqBytes b)) && !(Tables.exceptions.any (beqBytes b)))

theorem no_active_base_of_orLater : noActiveBaseOfOrLater = true := by
  refine List.all_eq_true.mpr fun x hx => ?_
  cases hs : stripSuffix? x sufOrLater with
  | none => rfl
  | some b =>
    obtain ⟨hb, -, -⟩ := orLater_listed_base b _ (stripSuffix_some_iff.mp hs ▸ licenseLookup_active hx)
    rw [licenseLookup_eq_none, lookup_none_iff, lookup_none_iff] at hb
    simp only [Bool.and_eq_true, Bool.not_eq_true', ← Bool.not_eq_true, any_beqBytes]
    exact ⟨fun h => hb.1 b h rfl, fun h => hb.2 b h rfl⟩

/-- `X-only`, when it is not itself listed, is read as `X` -/
theorem normalize_only (w rest : Bytes) (t : Tok)
    (hnot : licenseLookup (w ++ sufOnly) = none) (hw : licenseLookup w = some t) :
    normalize (w ++ sufOnly) rest = some ([t], rest) ∧ normalize w rest = some ([t], rest) := by
  constructor
  · unfold normalize
    simp [hnot, stripSuffix_append, hw]
  · unfold normalize
    simp [hw]

/-- `X-or-later` listed: `X+` (with `X` not active) and `X-or-later` give the same single token -/
theorem normalize_plus_listed (w rest : Bytes) (t : Tok)
    (hl : licenseLookup (w ++ sufOrLater) = some t)
    (hw : licenseLookup w = none) (hwo : (stripSuffix? w sufOnly).bind licenseLookup = none) :
    normalize w (43 :: rest) = some ([t], rest) ∧ normalize (w ++ sufOrLater) rest = some ([t], rest) := by
  constructor
  · unfold normalize
    simp [hw, hwo, hl]
  · unfold normalize
    simp [hl]

/-- `X-or-later` not listed, `X` active: `X-or-later` gives `[X, +]`; `X+` gives `[X]` with the `+` left in the input,
    which the next loop iteration reads as the operator — the same token sequence -/
theorem normalize_orLater_unlisted (w rest : Bytes) (t : Tok)
    (hl : licenseLookup (w ++ sufOrLater) = none) (hw : licenseLookup w = some t)
    (hno : stripSuffix? (w ++ sufOrLater) sufOnly = none)
    (hr : rest.head? ≠ some 43) :
    normalize (w ++ sufOrLater) rest = some ([t, .op .plus], rest) ∧ normalize w (43 :: rest) = some ([t], 43 :: rest) := by
  constructor
  · unfold normalize
    simp [hl, hno, stripSuffix_append, hw, hr]
  · unfold normalize
    simp [hw]

/-- on both sides of a match the licence id is looked up after `-or-later` has been stripped: ids that differ only
    by that suffix sit at the same position -/
theorem pos_orLater (w : Bytes) (h : sufOrLater.isSuffixOf w = false) : pos (w ++ sufOrLater) = pos w := by
  rcases C02.pos_ignores_orLater w with h1 | h1
  · exact h1
  · rw [h1] at h; cases h

end Spdx.C08
