/-
Lemmas/Match — comparison up to letter case is equality of the lowered texts (`foldEq_iff`); the single-term matching
relation: its normal form on two licence terms (`matchLeaf_lic`), symmetry, reflexivity.
-/
import SpdxVerif.Spec.Eval
namespace Spdx

theorem foldEq_iff (a b : Bytes) : foldEq a b = true ↔ lower a = lower b := by
  induction a generalizing b with
  | nil => cases b <;> simp [foldEq, lower]
  | cons x xs ih =>
    cases b with
    | nil => simp [foldEq, lower]
    | cons y ys =>
      simp only [foldEq, Bool.and_eq_true, lower, List.map_cons, List.cons.injEq]
      rw [ih ys]
      simp [lower]

theorem foldEq_symm (a b : Bytes) : foldEq a b = foldEq b a := by
  rw [Bool.eq_iff_iff, foldEq_iff, foldEq_iff]; exact eq_comm

theorem foldEq_refl (a : Bytes) : foldEq a a = true := (foldEq_iff a a).mpr rfl

namespace C02

/-- the version rule of the property text, over positions `(family, version group)` in the range table -/
def versionRule (a b : Bytes) (pa pb : Bool) : Bool :=
  match pos a, pos b with
  | some (i, j), some (k, l) =>
    i == k && (match pa, pb with
      | false, false => j == l
      | true, false => decide (j ≤ l)
      | false, true => decide (l ≤ j)
      | true, true => true)
  | _, _ => false

end C02
open C02

theorem versionRule_symm (a b : Bytes) (pa pb : Bool) : versionRule a b pa pb = versionRule b a pb pa := by
  unfold versionRule
  rcases pos a with _ | ⟨i, j⟩
  · cases pos b <;> rfl
  rcases pos b with _ | ⟨k, l⟩
  · rfl
  simp only [Bool.beq_comm (a := i)]
  cases pa <;> cases pb <;> simp only [Bool.beq_comm (a := j)]

/-! the position tests of the Go code (`sameLicenseGroup`, `compareEQ`, `compareGT || compareEQ`) are cases of the rule -/

theorem sameGroup_pos (a b : Bytes) : sameGroup (pos a) (pos b) = versionRule a b true true := by
  unfold sameGroup versionRule
  cases pos a <;> cases pos b <;> simp

theorem compareEQ_eq (a b : Bytes) : compareEQ a b = (a == b || versionRule a b false false) := by
  unfold compareEQ versionRule; rfl

theorem compareGT_or_EQ (a b : Bytes) : (compareGT a b || compareEQ a b) = (a == b || versionRule a b false true) := by
  unfold compareGT compareEQ versionRule
  rcases pos a with _ | ⟨i, j⟩
  · simp
  rcases pos b with _ | ⟨k, l⟩
  · simp
  have : decide (l ≤ j) = (decide (j > l) || j == l) := by
    rw [Bool.eq_iff_iff]; simp; omega
  simp only [this]
  cases a == b <;> cases i == k <;> simp

theorem matchLeaf_lic (a b : Bytes) (pa pb : Bool) (ea eb : Option Bytes) :
    matchLeaf (.lic a pa ea) (.lic b pb eb) =
      (ea == eb && (foldEq (render (.lic a pa ea)) (render (.lic b pb eb)) || a == b || versionRule a b pa pb)) := by
  by_cases he : ea = eb
  · subst he
    cases hf : foldEq (render (.lic a pa ea)) (render (.lic b pb ea)) with
    | true => simp [matchLeaf, hf]
    | false =>
      cases pa <;> cases pb <;>
        simp only [matchLeaf, bne_self_eq_false, Bool.false_eq_true, ↓reduceIte, hf, BEq.rfl, Bool.false_or, Bool.true_and]
      -- the branches of `licensesAreCompatible` by (`a+`?, `b+`?): neither, `b+` only, `a+` only (the same test, sides swapped), both
      · exact compareEQ_eq a b
      · exact compareGT_or_EQ a b
      · rw [compareGT_or_EQ, versionRule_symm, Bool.beq_comm]
      · -- `sameGroup` does not look at the ids: with `+` on both sides and different texts they differ
        have hab : (a == b) = false := by
          rw [beq_eq_false_iff_ne]; rintro rfl; rw [foldEq_refl] at hf; cases hf
        rw [sameGroup_pos, hab, Bool.false_or]
  · have : (ea == eb) = false := by simpa using he
    simp [matchLeaf, he, this]

theorem matchLeaf_of_ne (a b : Bytes) (pa pb : Bool) (e : Option Bytes) (hne : a ≠ b)
    (hfold : foldEq (render (.lic a pa e)) (render (.lic b pb e)) = false) :
    matchLeaf (.lic a pa e) (.lic b pb e) = versionRule a b pa pb := by
  have h1 : (a == b) = false := by simpa using hne
  simp [matchLeaf_lic, hfold, h1]

theorem matchLeaf_symm (x y : Node) : matchLeaf x y = matchLeaf y x := by
  cases x <;> cases y
  case lic.lic a pa ea b pb eb =>
    rw [matchLeaf_lic, matchLeaf_lic, foldEq_symm, versionRule_symm, Bool.beq_comm (a := ea), Bool.beq_comm (a := a)]
  case ref.ref da a db b =>
    simp only [matchLeaf]; rw [Bool.beq_comm (a := a), Bool.beq_comm (a := da)]
  -- terms of different kinds, or an expression node on either side: `false` both ways
  all_goals rfl

theorem matchLeaf_refl (x : Node) (h : x.isLeaf = true) : matchLeaf x x = true := by
  cases x with
  | lic a p e =>
    rw [matchLeaf_lic, foldEq_refl, BEq.rfl]
    rfl
  | ref d r => simp [matchLeaf]
  | and | or => cases h

end Spdx
