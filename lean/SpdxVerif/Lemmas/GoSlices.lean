/-
Lemmas/GoSlices — the index / slice expressions of spdxexp/satisfies.go stay in range (layer G, part 4), and the
Go-shaped loops compute what the main model says.
-/
import SpdxVerif.Model.GoSlices
import SpdxVerif.Lemmas.GoDeref
namespace Spdx.G

theorem idx_ok {α} {l : List α} {i : Nat} (h : i < l.length) : idx l i = .ok l[i] := by
  unfold idx; rw [List.getElem?_eq_getElem h]

theorem setIdx_ok {α} {l : List α} {i : Nat} {x : α} (h : i < l.length) : setIdx l i x = .ok (l.set i x) := by
  unfold setIdx; rw [if_pos h]

theorem slicePrefix_ok {α} (l : List α) (n : Nat) (h : n ≤ l.length) : slicePrefix l n = .ok (l.take n) := by
  unfold slicePrefix; rw [if_pos h]

theorem take_succ_set {α} (l : List α) {i : Nat} (y : α) (h : i < l.length) : (l.set i y).take (i + 1) = l.take i ++ [y] := by
  rw [List.take_succ_eq_append_getElem (by rw [List.length_set]; exact h), List.take_set_of_le (Nat.le_refl i),
    List.getElem_set_self]

/-- The loop of `sortAndDedup` started anywhere: `A[:prev]` is the compacted front, `A[curr:]` still to be read,
    `p = A[curr-1]` the element last read.  It writes at `prev ≤ curr` only, so what is still to be read is intact. -/
theorem dedupLoopG_eq (fuel : Nat) : ∀ (A : List Node) (prev curr : Nat) (p : Node),
    (∀ x ∈ A, x.isLeaf = true) → prev ≤ curr → A[curr - 1]? = some p → A.length - curr ≤ fuel →
    dedupLoopG fuel A prev curr =
      .ok (A.take prev ++ C07.runs p (A.drop curr) ++ A.drop (prev + (C07.runs p (A.drop curr)).length),
           prev + (C07.runs p (A.drop curr)).length) := by
  induction fuel with
  | zero =>
    intro A prev curr p _ _ _ hf
    rw [List.drop_eq_nil_of_le (by omega)]
    simp [dedupLoopG, C07.runs]
  | succ fuel ih =>
    intro A prev curr p hl hpc hp hf
    obtain ⟨hc1, hpv⟩ := List.getElem?_eq_some_iff.mp hp
    unfold dedupLoopG
    by_cases hc : curr < A.length
    · rw [if_pos hc, idx_ok hc1, bind_ok, idx_ok hc, bind_ok, hpv,
        renderG_leaf _ (hpv ▸ hl _ (List.getElem_mem hc1)), bind_ok, renderG_leaf _ (hl _ (List.getElem_mem hc)), bind_ok,
        List.drop_eq_getElem_cons hc]
      simp only [C07.runs]
      by_cases hne : (render p != render A[curr]) = true
      · have hpr : prev < A.length := by omega
        rw [if_pos hne, if_pos hne, setIdx_ok hpr, bind_ok,
          -- the loop goes on in the array after the write `nodes[prev] = nodes[curr]`, which still holds terms only, …
          ih (A.set prev A[curr]) (prev + 1) (curr + 1) A[curr]
            (fun x hx => (List.mem_or_eq_of_mem_set hx).elim (hl x) (· ▸ hl _ (List.getElem_mem hc)))
            (by omega)
            -- … and in which `A[curr]` is still the element last read, whether or not the write hit it
            (by by_cases hq : prev = curr
                · subst hq; exact List.getElem?_set_self hc
                · rw [Nat.add_sub_cancel, List.getElem?_set_ne hq]; exact List.getElem?_eq_getElem hc)
            (by rw [List.length_set]; omega),
          -- the write lies below `curr + 1`: the front gains `A[curr]`, what is still to be read is untouched
          take_succ_set _ _ hpr, List.drop_set_of_lt (by omega : prev < curr + 1), List.drop_set_of_lt (by omega)]
        simp only [List.length_cons, List.append_assoc, List.singleton_append, Nat.add_assoc, Nat.add_comm 1]
      · rw [if_neg hne, if_neg hne]
        exact ih A prev (curr + 1) A[curr] hl (by omega) (List.getElem?_eq_getElem hc) (by omega)
    · rw [if_neg hc, List.drop_eq_nil_of_le (by omega)]
      simp [C07.runs]

theorem sortAndDedupG_eq (nodes : List Node) (hl : ∀ x ∈ nodes, x.isLeaf = true) :
    ∃ front, sortAndDedupG nodes = .ok (sortAndDedupArray nodes, front) := by
  unfold sortAndDedupG sortAndDedupArray
  by_cases h : nodes.length ≤ 1
  · rw [if_pos h, if_pos h]; exact ⟨nodes, rfl⟩
  · rw [if_neg h, if_neg h, keysG_ok hl, bind_ok]
    have hsl := (sortLeaves_perm nodes).length_eq
    cases hs : sortLeaves nodes with
    | nil => rw [hs] at hsl; simp at hsl; omega
    | cons x xs =>
      simp only []
      rw [dedupLoopG_eq _ (x :: xs) 1 1 x (fun z hz => hl z ((sortLeaves_perm nodes).mem_iff.mp (hs ▸ hz))) (Nat.le_refl _)
        rfl (Nat.sub_le _ _), bind_ok, slicePrefix_ok _ _ (by simp; omega), bind_ok, C07.dedupInPlace_cons]
      exact ⟨_, by rw [List.length_cons, Nat.add_comm 1]; rfl⟩

theorem bytesLt_irrefl (a : Bytes) : bytesLt a a = false := by
  induction a with
  | nil => rfl
  | cons x xs ih => simp [bytesLt, ih]

theorem bytesLt_flip {a b : Bytes} (h : a ≠ b) : bytesLt b a = !bytesLt a b := by
  induction a generalizing b with
  | nil => cases b with
    | nil => exact absurd rfl h
    | cons y ys => rfl
  | cons x xs ih => cases b with
    | nil => rfl
    | cons y ys =>
      simp only [bytesLt]
      rcases Nat.lt_trichotomy x y with h1 | h1 | h1
      · simp [h1, Nat.lt_asymm h1]
      · subst h1; simp only [Nat.lt_irrefl, if_false]; exact ih fun e => h (e ▸ rfl)
      · simp [h1, Nat.lt_asymm h1]

/-- `listLt` in the shape of deepSort's comparator: `if iLicense != jLicense { return iLicense < jLicense }` -/
theorem listLt_cons (a b : Bytes) (as bs : List Bytes) :
    listLt (a :: as) (b :: bs) = if (a != b) = true then bytesLt a b else listLt as bs := by
  by_cases h : a = b
  · subst h; simp [listLt, bytesLt_irrefl]
  · simp only [listLt, bytesLt_flip h, bne_iff_ne, ne_eq, h, not_false_eq_true, if_true]
    cases bytesLt a b <;> rfl

/-- the comparator indexes `nodes2d[i][k]` only below `len(nodes2d[i])` -/
theorem lessG_ok (fuel : Nat) (a b : List Node) (k : Nat)
    (ha : ∀ x ∈ a, x.isLeaf = true) (hb : ∀ x ∈ b, x.isLeaf = true) (hf : b.length - k ≤ fuel) :
    lessG fuel a b k = .ok (listLt ((a.drop k).map render) ((b.drop k).map render)) := by
  induction fuel generalizing k with
  | zero =>
    rw [List.drop_eq_nil_of_le (by omega : b.length ≤ k)]
    unfold lessG
    cases (a.drop k).map render <;> rfl
  | succ fuel ih =>
    unfold lessG
    by_cases hk : k < b.length
    · rw [if_pos hk, List.drop_eq_getElem_cons hk]
      by_cases hka : k ≥ a.length
      · rw [if_pos hka, List.drop_eq_nil_of_le hka]; rfl
      · have hka' : k < a.length := by omega
        rw [if_neg hka, List.drop_eq_getElem_cons hka', idx_ok hka', bind_ok, idx_ok hk, bind_ok,
          renderG_leaf _ (ha _ (List.getElem_mem hka')), bind_ok, renderG_leaf _ (hb _ (List.getElem_mem hk)), bind_ok,
          List.map_cons, List.map_cons, listLt_cons, ih (k + 1) (by omega)]
        split <;> rfl
    · rw [if_neg hk, List.drop_eq_nil_of_le (by omega : b.length ≤ k)]
      cases (a.drop k).map render <;> rfl

/-- `nodes2d[0]` is read only when `len(nodes2d) == 1` -/
theorem deepSortGuardG_ok : ∀ ll : List (List Node), ∃ b, deepSortGuardG ll = .ok b
  | [] | [_] | _ :: _ :: _ => ⟨_, rfl⟩

theorem mergeInnerG_ok (fuel : Nat) (results : List (List Node)) (r : List Node) (j : Nat)
    (hf : fuel + j = results.length) :
    mergeInnerG fuel results r j = .ok (results.take j ++ (results.drop j).map (· ++ r)) := by
  induction fuel generalizing results j with
  | zero =>
    have hj : j = results.length := by omega
    subst hj
    simp [mergeInnerG]
  | succ fuel ih =>
    unfold mergeInnerG
    have hj : j < results.length := by omega
    rw [idx_ok hj, bind_ok, setIdx_ok hj, bind_ok,
      ih (results.set j (results[j] ++ r)) (j + 1) (by simp only [List.length_set]; omega)]
    congr 1
    rw [List.drop_eq_getElem_cons hj, List.drop_set_of_lt (Nat.lt_succ_self j), take_succ_set _ _ hj]
    simp only [List.map_cons, List.append_assoc, List.singleton_append]

/-- `mergeTerms` writes `results[j]` only for `j` below `len(results)` -/
theorem mergeTermsG_ok (L R : List (List Node)) : mergeTermsG L R = .ok (mergeTerms L R) := by
  induction R generalizing L with
  | nil => rfl
  | cons r rs ih =>
    unfold mergeTermsG
    rw [mergeInnerG_ok L.length L r 0 (by omega)]
    simp only [Out.bind, List.take_zero, List.drop_zero, List.nil_append]
    rw [ih]
    rfl

theorem fillG_ok {α} : ∀ (fuel : Nat) (nodes : List (Option α)) (xs : List α) (i : Nat), i + xs.length ≤ nodes.length →
    ∃ out, fillG fuel nodes xs i = .ok out ∧ out.length = nodes.length
  | 0, nodes, _, _, _ | _ + 1, nodes, [], _, _ => ⟨nodes, rfl, rfl⟩
  | fuel + 1, nodes, x :: xs, i, h => by
    have hi : i < nodes.length := Nat.lt_of_lt_of_le (Nat.lt_add_of_pos_right (Nat.succ_pos _)) h
    obtain ⟨out, h1, h2⟩ := fillG_ok fuel (nodes.set i (some x)) xs (i + 1)
      (by rw [List.length_set, Nat.add_assoc, Nat.add_comm 1]; exact h)
    exact ⟨out, by rw [fillG, setIdx_ok hi, bind_ok, h1], h2.trans List.length_set⟩

end Spdx.G
