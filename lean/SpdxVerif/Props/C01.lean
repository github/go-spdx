/-
C01 — Satisfies returns the Boolean truth of the expression under the allowed list.
-/
import SpdxVerif.Props.C10
namespace Spdx.C01

/-- **C01 (core).** For every tree and every list of allowed nodes the verdict computed through the
OR-of-ANDs expansion (`expand`, `expandOr/And/Term`, `appendTerms`, `mergeTerms`, `deepSort`,
`isCompatible`) equals the value of the tree read as a Boolean formula, a term being true iff some
allowed node matches it on its own. -/
theorem verdict_eq_eval (n : Node) (A : List Node) : verdict n A = eval (covered A) n :=
  verdictBy_eq_eval matchLeaf n A

/-- The same for an arbitrary single-term matcher: C01 does not depend on the matching rule (C02). -/
theorem verdictBy_eq_eval (m : Node → Node → Bool) (n : Node) (A : List Node) :
    verdictBy m n A = eval (coveredBy m A) n :=
  Spdx.verdictBy_eq_eval m n A

/-- "never answers 'satisfied' while every alternative still has an uncovered required term, and never
answers 'not satisfied' when one alternative is fully covered" — with the alternatives defined
independently of the implementation's expansion. -/
theorem verdict_iff_alternative_covered (n : Node) (A : List Node) :
    verdict n A = true ↔ ∃ alt ∈ altsOf n, ∀ t ∈ alt, covered A t = true := by
  rw [verdict_eq_eval, ← dnf_altsOf]
  simp [dnf]

/-- AND needs both operands, OR needs either. -/
theorem verdict_and (l r : Node) (A : List Node) : verdict (.and l r) A = (verdict l A && verdict r A) :=
  C10.verdict_and matchLeaf l r A
theorem verdict_or (l r : Node) (A : List Node) : verdict (.or l r) A = (verdict l A || verdict r A) :=
  C10.verdict_or matchLeaf l r A

/-! ### non-vacuity: the three shapes the property names -/
section
private def mit : Node := .lic [77,73,84] false none                              -- MIT
private def isc : Node := .lic [73,83,67] false none                              -- ISC
private def zlib : Node := .lic [90,108,105,98] false none                        -- Zlib
private def apache : Node := .lic [65,112,97,99,104,101,45,50,46,48] false none   -- Apache-2.0
private def refx : Node := .ref none [120]                                        -- LicenseRef-x

-- a LicenseRef under OR
example : verdict (.or mit refx) [refx] = true := by decide +kernel
-- an OR under AND under OR: only the inner alternative is covered
example : verdict (.or mit (.and isc (.or apache zlib))) [isc, zlib] = true := by decide +kernel
example : verdict (.or mit (.and isc (.or apache zlib))) [isc] = false := by decide +kernel
-- a left-nested AND chain times an OR
example : verdict (.and (.and (.and mit isc) apache) (.or zlib refx)) [mit, isc, apache, zlib] = true := by decide +kernel
example : verdict (.and (.and (.and mit isc) apache) (.or zlib refx)) [mit, isc, apache, refx] = true := by decide +kernel
example : verdict (.and (.and (.and mit isc) apache) (.or zlib refx)) [mit, isc, zlib, refx] = false := by decide +kernel
end

end Spdx.C01
