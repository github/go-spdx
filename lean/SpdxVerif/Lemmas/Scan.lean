/-
Lemmas/Scan — one scanner iteration, characterised once (`lexeme_cases`), and the loop without fuel (`scanFrom_unfold`;
`toks_unfold` on tokens only).  `step` skips a run of spaces and reads a `lexeme`: an operator, a reference name behind one of
the two prefixes, or a word handed to the normalisation cascade.
-/
import SpdxVerif.Lemmas.Cascade
namespace Spdx

def allId (w : Bytes) : Bool := w.all isIdChar

def Stops (b : Bytes) : Prop := ∀ c, b.head? = some c → isIdChar c = false

theorem stops_nil : Stops [] := nofun
theorem stops_cons {c : Nat} {r : Bytes} (h : isIdChar c = false) : Stops (c :: r) := by
  intro c' h'; cases h'; exact h

theorem run_eq (p : Nat → Bool) (w r : Bytes) (hw : w.all p = true) (hr : ∀ c, r.head? = some c → p c = false) :
    (w ++ r).takeWhile p = w ∧ (w ++ r).dropWhile p = r := by
  have hw' := List.all_eq_true.mp hw
  rw [List.takeWhile_append_of_pos hw', List.dropWhile_append_of_pos hw']
  cases r with
  | nil => simp
  | cons c r => simp [hr c rfl]

theorem run_stops (p : Nat → Bool) (t : Bytes) : ∀ c, (t.dropWhile p).head? = some c → p c = false := by
  intro c hc; have := List.head?_dropWhile_not p t; rw [hc] at this; exact this

theorem dropWhile_of_takeWhile_nil {p : Nat → Bool} {l : Bytes} (h : l.takeWhile p = []) : l.dropWhile p = l := by
  have := List.takeWhile_append_dropWhile (p := p) (l := l)
  rwa [h, List.nil_append] at this

theorem idRun (t : Bytes) : t = t.takeWhile isIdChar ++ t.dropWhile isIdChar ∧ allId (t.takeWhile isIdChar) = true ∧
    Stops (t.dropWhile isIdChar) :=
  ⟨List.takeWhile_append_dropWhile.symm, List.all_takeWhile, run_stops _ t⟩

/-- what `step` does after the leading spaces have been skipped -/
def lexeme (s1 : Bytes) (off1 : Nat) (afterSp : Bool) : Step :=
  match readOp s1 with
  | some (o, r) =>
    if o = .plus ∧ afterSp = true then .err .spaceBeforePlus else .tok [.op o] r
  | none =>
  if docRefPrefix.isPrefixOf s1 then
    let r := s1.drop docRefPrefix.length
    let id := r.takeWhile isIdChar
    if id = [] then .err (.expectedId (off1 + docRefPrefix.length))
    else .tok [.docRef id] (r.dropWhile isIdChar)
  else if licRefPrefix.isPrefixOf s1 then
    let r := s1.drop licRefPrefix.length
    let id := r.takeWhile isIdChar
    if id = [] then .err (.expectedId (off1 + licRefPrefix.length))
    else .tok [.licRef id] (r.dropWhile isIdChar)
  else
    let w := s1.takeWhile isIdChar
    if w = [] then .err (.expectedId off1) else
    match normalize w (s1.dropWhile isIdChar) with
    | none => .err (.unknownLicense w off1)
    | some (toks, r) => .tok toks r

theorem step_eq (s : Bytes) (off : Nat) :
    step s off = (if s.dropWhile isSp = [] then .done
      else lexeme (s.dropWhile isSp) (off + (s.takeWhile isSp).length) (decide (s.takeWhile isSp ≠ []))) := by
  unfold step lexeme
  cases s.dropWhile isSp with
  | nil => rfl
  | cons c cs => simp only [reduceCtorEq, ↓reduceIte, decide_eq_true_eq]; rfl

/-- the name behind a reference prefix `pre`: one piece of code for `DocumentRef-` and `LicenseRef-` -/
def readRef (pre : Bytes) (mk : Bytes → Tok) (s1 : Bytes) (off1 : Nat) : Step :=
  if ((s1.drop pre.length).takeWhile isIdChar) = [] then .err (.expectedId (off1 + pre.length))
  else .tok [mk ((s1.drop pre.length).takeWhile isIdChar)] ((s1.drop pre.length).dropWhile isIdChar)

def readWord (s1 : Bytes) (off1 : Nat) : Step :=
  if s1.takeWhile isIdChar = [] then .err (.expectedId off1) else
  match normCore (s1.takeWhile isIdChar) ((s1.dropWhile isIdChar).head? == some 43) with
  | none => .err (.unknownLicense (s1.takeWhile isIdChar) off1)
  | some (ts, k) => .tok ts (if k then (s1.dropWhile isIdChar).tail else s1.dropWhile isIdChar)

theorem lexeme_eq (s1 : Bytes) (off1 : Nat) (f : Bool) : lexeme s1 off1 f =
    match readOp s1 with
    | some (o, r) => if o = .plus ∧ f = true then .err .spaceBeforePlus else .tok [.op o] r
    | none =>
      if docRefPrefix.isPrefixOf s1 then readRef docRefPrefix .docRef s1 off1
      else if licRefPrefix.isPrefixOf s1 then readRef licRefPrefix .licRef s1 off1
      else readWord s1 off1 := by
  unfold lexeme readWord
  simp only [normalize_eq_core]
  cases normCore (s1.takeWhile isIdChar) ((s1.dropWhile isIdChar).head? == some 43) <;> rfl

theorem readRef_cases (pre : Bytes) (mk : Bytes → Tok) (s1 : Bytes) (hp : pre.isPrefixOf s1 = true) :
    ∃ id r, s1 = pre ++ (id ++ r) ∧ allId id = true ∧ Stops r ∧
      ∀ off1, readRef pre mk s1 off1 = if id = [] then .err (.expectedId (off1 + pre.length)) else .tok [mk id] r := by
  obtain ⟨t, rfl⟩ := List.isPrefixOf_iff_prefix.mp hp
  refine ⟨t.takeWhile isIdChar, t.dropWhile isIdChar, by rw [← (idRun t).1], (idRun t).2.1, (idRun t).2.2, fun off1 => ?_⟩
  unfold readRef; rw [List.drop_left]

/-- the three kinds of lexeme, with the way the input splits; the offset enters the errors only, so it is bound inside -/
theorem lexeme_cases (s1 : Bytes) (f : Bool) :
    (∃ o r, readOp s1 = some (o, r) ∧
      ∀ off1, lexeme s1 off1 f = if o = .plus ∧ f = true then .err .spaceBeforePlus else .tok [.op o] r) ∨
    (∃ pre mk id r, (mk = Tok.docRef ∨ mk = Tok.licRef) ∧ s1 = pre ++ (id ++ r) ∧ allId id = true ∧ Stops r ∧
      ∀ off1, lexeme s1 off1 f = if id = [] then .err (.expectedId (off1 + pre.length)) else .tok [mk id] r) ∨
    (∃ w r, s1 = w ++ r ∧ allId w = true ∧ Stops r ∧
      ∀ off1, lexeme s1 off1 f = if w = [] then .err (.expectedId off1) else
        match normCore w (r.head? == some 43) with
        | none => .err (.unknownLicense w off1)
        | some (ts, k) => .tok ts (if k then r.tail else r)) := by
  have he := fun off1 => lexeme_eq s1 off1 f
  cases hop : readOp s1 with
  | some p => exact .inl ⟨p.1, p.2, rfl, fun off1 => by rw [he, hop]⟩
  | none =>
    simp only [hop] at he
    split at he
    · obtain ⟨id, r, hs, hid, hr, h⟩ := readRef_cases _ .docRef s1 ‹_›
      exact .inr (.inl ⟨_, _, id, r, .inl rfl, hs, hid, hr, fun o => (he o).trans (h o)⟩)
    · split at he
      · obtain ⟨id, r, hs, hid, hr, h⟩ := readRef_cases _ .licRef s1 ‹_›
        exact .inr (.inl ⟨_, _, id, r, .inr rfl, hs, hid, hr, fun o => (he o).trans (h o)⟩)
      · exact .inr (.inr ⟨_, _, (idRun s1).1, (idRun s1).2.1, (idRun s1).2.2, he⟩)

theorem lexeme_tok_inv {s1 : Bytes} {off1 : Nat} {f : Bool} {ts : List Tok} {r : Bytes} (h : lexeme s1 off1 f = .tok ts r) :
    (∃ o, ts = [.op o] ∧ readOp s1 = some (o, r) ∧ ¬ (o = .plus ∧ f = true)) ∨
    (∃ pre mk id, (mk = Tok.docRef ∨ mk = Tok.licRef) ∧ ts = [mk id] ∧ id ≠ [] ∧ allId id = true ∧ s1 = pre ++ (id ++ r) ∧ Stops r) ∨
    (∃ w rest k, w ≠ [] ∧ allId w = true ∧ s1 = w ++ rest ∧ Stops rest ∧
      normCore w (rest.head? == some 43) = some (ts, k) ∧ r = if k then rest.tail else rest) := by
  rcases lexeme_cases s1 f with ⟨o, r', hop, he⟩ | ⟨pre, mk, id, r', hmk, hs, hid, hr, he⟩ | ⟨w, rest, hs, hw, hr, he⟩ <;>
    rw [he] at h
  · split at h
    · cases h
    · rename_i hn; cases h; exact .inl ⟨o, rfl, hop, hn⟩
  · split at h
    · cases h
    · rename_i hne; cases h; exact .inr (.inl ⟨pre, mk, id, hmk, rfl, hne, hid, hs, hr⟩)
  · split at h
    · cases h
    · rename_i hne
      split at h
      · cases h
      · rename_i k hn; cases h; exact .inr (.inr ⟨w, rest, k, hne, hw, hs, hr, hn, rfl⟩)

/-- in the middle case `pre` is a reference prefix or, where a word was expected, `[]` -/
theorem lexeme_err_inv {s1 : Bytes} {off1 : Nat} {f : Bool} {e : ScanErr} (h : lexeme s1 off1 f = .err e) :
    e = .spaceBeforePlus ∨
    (∃ pre t, s1 = pre ++ t ∧ Stops t ∧ e = .expectedId (off1 + pre.length)) ∨
    (∃ w rest, w ≠ [] ∧ s1 = w ++ rest ∧ e = .unknownLicense w off1) := by
  rcases lexeme_cases s1 f with ⟨o, r', hop, he⟩ | ⟨pre, mk, id, r', hmk, hs, hid, hr, he⟩ | ⟨w, rest, hs, hw, hr, he⟩ <;>
    rw [he] at h
  · split at h
    · cases h; exact .inl rfl
    · cases h
  · split at h
    · rename_i hid; subst hid; cases h; exact .inr (.inl ⟨pre, r', hs, hr, rfl⟩)
    · cases h
  · split at h
    · rename_i hw; subst hw; cases h; exact .inr (.inl ⟨[], rest, hs, hr, rfl⟩)
    · rename_i hne
      split at h
      · cases h; exact .inr (.inr ⟨w, rest, hne, hs, rfl⟩)
      · cases h

theorem lexeme_ne_done (s1 : Bytes) (off1 : Nat) (f : Bool) : lexeme s1 off1 f ≠ .done := by
  rcases lexeme_cases s1 f with ⟨_, _, _, he⟩ | ⟨_, _, _, _, _, _, _, _, he⟩ | ⟨_, _, _, _, _, he⟩ <;> rw [he]
  · split <;> nofun
  · split <;> nofun
  · split
    · nofun
    · split <;> nofun

theorem spaces_split (s : Bytes) : s = s.takeWhile isSp ++ s.dropWhile isSp := List.takeWhile_append_dropWhile.symm

theorem step_lexeme {s : Bytes} {off : Nat} {st : Step} (h : step s off = st) (hst : st ≠ .done) :
    lexeme (s.dropWhile isSp) (off + (s.takeWhile isSp).length) (decide (s.takeWhile isSp ≠ [])) = st := by
  rw [step_eq] at h
  split at h
  · exact absurd h.symm hst
  · exact h

theorem opTable_mem {p : Bytes × Op} (h : p ∈ opTable) :
    p.1 ≠ [] ∧ (∀ c ∈ p.1, c ≠ 32) ∧ (p.1 == bPlus) = decide (p.2 = .plus) := by
  have := List.all_eq_true.mp (by decide :
    opTable.all (fun p => p.1 != [] && (p.1.all (· != 32) && ((p.1 == bPlus) == decide (p.2 = .plus)))) = true) p h
  simpa using this

theorem readOp_inv {s : Bytes} {o : Op} {r : Bytes} (h : readOp s = some (o, r)) : ∃ kw, (kw, o) ∈ opTable ∧ s = kw ++ r := by
  obtain ⟨p, hf, hp⟩ := Option.map_eq_some_iff.mp h
  cases hp
  have hp := List.find?_some hf
  obtain ⟨t, rfl⟩ := List.isPrefixOf_iff_prefix.mp hp
  exact ⟨p.1, List.mem_of_find?_eq_some hf, by rw [List.drop_left]⟩

theorem lexeme_suffix {s1 off1 f ts r} (h : lexeme s1 off1 f = .tok ts r) : ∃ pre, pre ≠ [] ∧ s1 = pre ++ r := by
  rcases lexeme_tok_inv h with ⟨o, -, hop, -⟩ | ⟨pre, mk, id, -, -, hne, -, hs, -⟩ | ⟨w, rest, k, hne, -, hs, -, -, hr⟩
  · obtain ⟨kw, hm, hs⟩ := readOp_inv hop
    exact ⟨kw, (opTable_mem hm).1, hs⟩
  · exact ⟨pre ++ id, by simp [hne], by rw [hs, List.append_assoc]⟩
  · cases k with
    | false => exact ⟨w, hne, by rw [hs, hr]; rfl⟩
    | true =>
      -- the `+` behind the word is consumed with it (if there is one: `tail` of nothing is nothing)
      cases rest with
      | nil => exact ⟨w, hne, by rw [hs, hr]; rfl⟩
      | cons c t => exact ⟨w ++ [c], by simp, by rw [hs, hr]; simp⟩

theorem step_suffix {s off ts r} (h : step s off = .tok ts r) : ∃ pre, pre ≠ [] ∧ s = pre ++ r := by
  obtain ⟨pre, hpre, hs⟩ := lexeme_suffix (step_lexeme h nofun)
  exact ⟨s.takeWhile isSp ++ pre, by simp [hpre], by rw [List.append_assoc, ← hs]; exact spaces_split s⟩

theorem step_length_lt {s off ts r} (h : step s off = .tok ts r) : r.length < s.length := by
  obtain ⟨pre, hpre, rfl⟩ := step_suffix h
  have := List.length_pos_iff.mpr hpre
  simp only [List.length_append]; omega

theorem scan_induction {P : Bytes → Prop} (h : ∀ s, (∀ off ts r, step s off = .tok ts r → P r) → P s) (s : Bytes) : P s := by
  have : ∀ n (s : Bytes), s.length < n → P s := by
    intro n
    induction n with
    | zero => intro s hs; omega
    | succ n ih => exact fun s hs => h s fun off ts r hst => ih r (by have := step_length_lt hst; omega)
  exact this _ s (Nat.lt_succ_self _)

def scanFrom (s : Bytes) (off : Nat) : Except ScanErr (List Tok) := scanLoop (s.length + 1) s off

theorem scan_eq_scanFrom (s : Bytes) : scan s = scanFrom s 0 := rfl

theorem scan_fuel (s : Bytes) : ∀ (fuel off : Nat), s.length < fuel → scanLoop fuel s off = scanFrom s off := by
  induction s using scan_induction with
  | _ s ih =>
    intro fuel off hf
    cases fuel with
    | zero => omega
    | succ g =>
      rw [scanFrom, scanLoop, scanLoop]
      cases hs : step s off with
      | done | err => rfl
      | tok ts r =>
        have := step_length_lt hs
        simp only
        rw [ih off ts r hs g _ (by omega), ih off ts r hs s.length _ (by omega)]

/-- `off + s.length`, the offset of the end of the text, is the same in every iteration -/
theorem scanFrom_unfold (s : Bytes) (off : Nat) :
    scanFrom s off = match step s off with
      | .done => .ok []
      | .err e => .error e
      | .tok ts r => (scanFrom r (off + s.length - r.length)).map (ts ++ ·) := by
  rw [scanFrom, scanLoop]
  cases hs : step s off with
  | done | err => rfl
  | tok ts r =>
    have := step_length_lt hs
    simp only
    rw [scan_fuel r _ _ this, Nat.add_sub_assoc (Nat.le_of_lt this)]

theorem toOption_map {ε α β} (f : α → β) (x : Except ε α) : (x.map f).toOption = x.toOption.map f := by
  cases x <;> rfl

/-- an iteration up to the error it reports: all that depends on the offset -/
def Step.eraseErr : Step → Step
  | .err _ => .err .spaceBeforePlus
  | s => s

theorem lexeme_off (s1 : Bytes) (o o' : Nat) (f : Bool) : (lexeme s1 o f).eraseErr = (lexeme s1 o' f).eraseErr := by
  rcases lexeme_cases s1 f with ⟨_, _, _, he⟩ | ⟨_, _, _, _, _, _, _, _, he⟩ | ⟨_, _, _, _, _, he⟩ <;> rw [he o, he o']
  · split <;> rfl
  · split
    · rfl
    · split <;> rfl

theorem step_off (s : Bytes) (o o' : Nat) : (step s o).eraseErr = (step s o').eraseErr := by
  rw [step_eq, step_eq]
  split
  · rfl
  · exact lexeme_off _ _ _ _

def toks (s : Bytes) : Option (List Tok) := (scan s).toOption

theorem toks_nil : toks [] = some [] := rfl

theorem toks_of_scan {s : Bytes} {ts : List Tok} (h : scan s = .ok ts) : toks s = some ts :=
  congrArg Except.toOption h

theorem toks_off (s : Bytes) : ∀ off, (scanFrom s off).toOption = toks s := by
  induction s using scan_induction with
  | _ s ih =>
    have key : ∀ off, (scanFrom s off).toOption = match (step s off).eraseErr with
        | .done => some []
        | .err _ => none
        | .tok ts r => (toks r).map (ts ++ ·) := by
      intro off
      rw [scanFrom_unfold]
      cases hs : step s off with
      | done | err => rfl
      | tok ts r => rw [toOption_map, ih off ts r hs]; rfl
    intro off
    rw [key, toks, scan_eq_scanFrom, key, step_off s off 0]

theorem toks_unfold (s : Bytes) (off : Nat) : toks s = match step s off with
    | .done => some []
    | .err _ => none
    | .tok ts r => (toks r).map (ts ++ ·) := by
  rw [← toks_off s off, scanFrom_unfold]
  cases step s off with
  | done | err => rfl
  | tok ts r => rw [toOption_map, toks_off]

theorem toks_rec {Q : Bytes → List Tok → Prop} (done : ∀ s, step s 0 = .done → Q s [])
    (tok : ∀ s ts r ts', step s 0 = .tok ts r → toks r = some ts' → Q r ts' → Q s (ts ++ ts')) :
    ∀ s ts, toks s = some ts → Q s ts := by
  intro s
  induction s using scan_induction with
  | _ s ih =>
    intro ts h
    rw [toks_unfold s 0] at h
    cases hs : step s 0 with
    | done => rw [hs] at h; cases h; exact done s hs
    | err e => rw [hs] at h; cases h
    | tok t1 r =>
      rw [hs] at h
      obtain ⟨ts', hr, rfl⟩ := Option.map_eq_some_iff.mp h
      exact tok s t1 r ts' hs hr (ih 0 t1 r hs ts' hr)

/-- what it means for a scanner error to point into `input` (C15) -/
def ErrAt (input : Bytes) : ScanErr → Prop
  | .spaceBeforePlus => True
  | .expectedId off => off ≤ input.length ∧ ∀ c, input[off]? = some c → isIdChar c = false
  | .unknownLicense lex off => (input.drop off).take lex.length = lex ∧ lex ≠ []

theorem lexeme_err_at {a s1 : Bytes} {f : Bool} {e : ScanErr} (h : lexeme s1 a.length f = .err e) : ErrAt (a ++ s1) e := by
  rcases lexeme_err_inv h with rfl | ⟨pre, t, rfl, ht, rfl⟩ | ⟨w, rest, hw, rfl, rfl⟩
  · trivial
  · -- the offset is the length of `a ++ pre`, and the byte there is the first of `t`
    rw [← List.length_append, ← List.append_assoc]
    refine ⟨by simp, fun c hc => ht c ?_⟩
    rwa [List.getElem?_append_right (Nat.le_refl _), Nat.sub_self, ← List.head?_eq_getElem?] at hc
  · exact ⟨by rw [List.drop_left, List.take_left], hw⟩

theorem step_err_at {a s : Bytes} {e} (h : step s a.length = .err e) : ErrAt (a ++ s) e := by
  have h := step_lexeme h nofun
  rw [← List.length_append] at h
  rw [spaces_split s, ← List.append_assoc]
  exact lexeme_err_at h

theorem scanFrom_err_at {e} (s : Bytes) : ∀ a : Bytes, scanFrom s a.length = .error e → ErrAt (a ++ s) e := by
  induction s using scan_induction with
  | _ s ih =>
    intro a h
    rw [scanFrom_unfold] at h
    cases hs : step s a.length with
    | done => rw [hs] at h; cases h
    | err e' => rw [hs] at h; cases h; exact step_err_at hs
    | tok ts r =>
      obtain ⟨pre, -, rfl⟩ := step_suffix hs
      -- the loop goes on behind `a ++ pre`
      simp only [hs, List.length_append, ← Nat.add_assoc, Nat.add_sub_cancel] at h
      rw [← List.length_append] at h
      cases hr : scanFrom r (a ++ pre).length with
      | ok v => rw [hr] at h; cases h
      | error e2 => rw [hr] at h; cases h; rw [← List.append_assoc]; exact ih _ ts r hs _ hr

end Spdx
