/-
C07 (string level) — the allowed list behaves as a set and the verdict is monotone in it: statements about `satisfies`
on byte strings, including the in-place sort-and-dedup of the allowed nodes whose returned slice `Satisfies` discards.
-/
import SpdxVerif.Lemmas.Outcome
namespace Spdx.C07

/-- **the result depends only on the set of terms the list denotes**: two non-empty lists of valid single terms that denote
    the same set of terms give the same result, whatever their order, repetitions and spellings -/
theorem satisfies_denotes (e : Bytes) (L L' : List Bytes) (hL : L ≠ []) (hL' : L' ≠ [])
    (h1 : AllSingle L) (h2 : AllSingle L') (hd : ∀ t, Denotes L t ↔ Denotes L' t) :
    satisfies e L = satisfies e L' := by
  obtain ⟨A, hA⟩ := (toNodes_ok_iff_all L).mpr h1
  obtain ⟨A', hA'⟩ := (toNodes_ok_iff_all L').mpr h2
  cases he : parse e with
  | error err => simp [satisfies, he]
  | ok n =>
    rw [satisfies_eq e L n A he hL hA, satisfies_eq e L' n A' he hL' hA',
      show covered A = covered A' from coveredBy_set _ fun a => by rw [toNodes_mem hA, toNodes_mem hA']; exact hd a]

/-- **reordering and repetition**: lists with the same entries (as sets of strings) give the same outcome -/
theorem satisfies_same_entries (e : Bytes) (L L' : List Bytes) (h : ∀ x, x ∈ L ↔ x ∈ L') :
    outcome (satisfies e L) = outcome (satisfies e L') := by
  rw [outcome_satisfies, outcome_satisfies]
  exact outcomeOf_set _ (fun o => by simp [List.mem_map, h])

theorem satisfies_perm (e : Bytes) {L L' : List Bytes} (h : L.Perm L') : outcome (satisfies e L) = outcome (satisfies e L') :=
  satisfies_same_entries e L L' (fun _ => h.mem_iff)

theorem satisfies_repeat (e : Bytes) (L : List Bytes) (x : Bytes) (hx : x ∈ L) :
    outcome (satisfies e (x :: L)) = outcome (satisfies e L) :=
  satisfies_same_entries e _ _ (fun y => by simp only [List.mem_cons]; exact ⟨fun h => h.elim (· ▸ hx) id, Or.inr⟩)

/-- **re-spelling an entry**: replacing an entry by any other spelling of the same term never changes the result -/
theorem satisfies_respell (e : Bytes) (pre post : List Bytes) (x x' : Bytes) (h : leafOf x = leafOf x') :
    outcome (satisfies e (pre ++ x :: post)) = outcome (satisfies e (pre ++ x' :: post)) := by
  rw [outcome_satisfies, outcome_satisfies, List.map_append, List.map_append, List.map_cons, List.map_cons, h]

/-- surrounding parentheses and surrounding spaces are such re-spellings -/
theorem leafOf_parens (x : Bytes) (t : Node) (h : leafOf x = some t) : leafOf (40 :: (x ++ [41])) = some t := by
  obtain ⟨hp, hl⟩ := leafOf_eq_some.mp h
  exact leafOf_eq_some.mpr ⟨parse_parens x t hp, hl⟩

theorem leafOf_spaces (x sp sp' : Bytes) (t : Node) (hsp : sp.dropWhile isSp = []) (hsp' : sp'.dropWhile isSp = [])
    (h : leafOf x = some t) : leafOf (sp ++ (x ++ sp')) = some t := by
  obtain ⟨hp, hl⟩ := leafOf_eq_some.mp h
  exact leafOf_eq_some.mpr ⟨parse_leading_spaces sp (x ++ sp') hsp t (parse_trailing_spaces x sp' hsp' t hp), hl⟩

/-- **monotone**: adding further valid single-term entries can turn 'not satisfied' into 'satisfied', never the reverse -/
theorem satisfies_mono (e : Bytes) (L M : List Bytes) (hM : AllSingle M) (h : satisfies e L = .ok true) :
    satisfies e (L ++ M) = .ok true := by
  obtain ⟨n, hn, hc, hv⟩ := satisfies_ok_iff.mp h
  simp only [Bool.or_eq_false_iff, Bool.not_eq_false'] at hc
  have hM' : (M.map leafOf).all Option.isSome = true := by simpa [AllSingle] using hM
  refine satisfies_ok_iff.mpr ⟨n, hn, ?_, ?_⟩
  · rw [List.map_append, List.all_append, hc.2, hM']
    cases L with
    | nil => cases hc.1
    | cons => rfl
  · rw [List.map_append, List.filterMap_append]
    exact (eval_mono _ _ n (coveredBy_mono _ (fun a ha => List.mem_append_left _ ha)) hv.symm).symm

section
private def gpl2 : Bytes := [71,80,76,45,50,46,48]          -- GPL-2.0
private def mit : Bytes := [77,73,84]
private def mitSp : Bytes := [32,40,77,73,84,41,32]         -- " (MIT) "
example : (match satisfies mit [gpl2, mit] with | .ok b => b | .error _ => false) = true := by decide +kernel
example : leafOf mitSp = leafOf mit := by decide +kernel
example : AllSingle [gpl2, mit] := by
  intro x hx; simp at hx; rcases hx with rfl | rfl <;> decide +kernel
end

end Spdx.C07
