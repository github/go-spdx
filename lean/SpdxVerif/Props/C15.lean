/-
C15 — error messages locate the offending text in the caller's own string.
-/
import SpdxVerif.Model.Parse
import SpdxVerif.Lemmas.Scan
namespace Spdx.C15

/-- **C15.** Every offset-bearing scanner error points into the string that was passed in:
for `unknown license 'lex' at offset off`, `lex` is non-empty and is found at exactly `off`;
for `expected id at offset off`, `off` is a position of the string (or its end) at which no id byte stands.
(The model's scanner works on true suffixes of the caller's string; the `-or-later` rewrite never
shifts an offset.) -/
theorem scan_error_located (s : Bytes) (e : ScanErr) (h : scan s = .error e) : ErrAt s e :=
  scanFrom_err_at s [] h

theorem unknown_license_located (s lex : Bytes) (off : Nat) (h : scan s = .error (.unknownLicense lex off)) :
    (s.drop off).take lex.length = lex ∧ lex ≠ [] ∧ off + lex.length ≤ s.length := by
  obtain ⟨h1, h2⟩ := scan_error_located s _ h
  refine ⟨h1, h2, ?_⟩
  have hl := congrArg List.length h1
  simp only [List.length_take, List.length_drop] at hl
  have := List.length_pos_iff.mpr h2
  omega

theorem expected_id_located (s : Bytes) (off : Nat) (h : scan s = .error (.expectedId off)) :
    off ≤ s.length ∧ ∀ c, s[off]? = some c → isIdChar c = false :=
  scan_error_located s _ h

/-- lifted through `parse`, hence through `Satisfies` (expression and every allowed entry) and
`ExtractLicenses`, which return the error of `parse` unchanged -/
theorem parse_error_located (s : Bytes) (e : ScanErr) (h : parse s = .error (.scan e)) : ErrAt s e := by
  unfold parse at h
  split at h
  · cases h
  · split at h
    · rename_i he; cases h; exact scan_error_located s e he
    · split at h <;> cases h

/-! ### non-vacuity: prefixes containing -or-later, -or-later+, '+', spaces and parentheses -/
section
-- "Apache-2.0-or-later AND FOO": FOO is at offset 24 of the caller's string
example : (match scan [65,112,97,99,104,101,45,50,46,48,45,111,114,45,108,97,116,101,114,32,65,78,68,32,70,79,79] with
    | .error e => e == .unknownLicense [70,79,79] 24 | .ok _ => false) = true := by decide +kernel
-- "(MIT+ OR  Apache-2.0-or-later+) AND LicenseRef-": the id is missing at offset 47 = end of the string
example : (match scan [40,77,73,84,43,32,79,82,32,32,65,112,97,99,104,101,45,50,46,48,45,111,114,45,108,97,116,101,114,43,41,32,65,78,68,32,76,105,99,101,110,115,101,82,101,102,45] with
    | .error e => e == .expectedId 47 | .ok _ => false) = true := by decide +kernel
end

end Spdx.C15
