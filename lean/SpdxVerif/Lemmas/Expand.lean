/-
Lemmas/Expand — the expansion computes the Boolean value of the tree (core of C01, C07, C10), keeps every leaf and
invents none (core of C06).
-/
import SpdxVerif.Spec.Eval
namespace Spdx

theorem insertBy_perm {α} (le : α → α → Bool) (x : α) (l : List α) : (insertBy le x l).Perm (x :: l) := by
  induction l with
  | nil => exact .refl _
  | cons y ys ih =>
    simp only [insertBy]
    split
    · exact .refl _
    · exact (ih.cons y).trans (.swap x y ys)

theorem sortBy_perm {α} (le : α → α → Bool) (l : List α) : (sortBy le l).Perm l := by
  induction l with
  | nil => exact .refl _
  | cons x xs ih => exact (insertBy_perm le x _).trans (ih.cons x)

theorem sortLeaves_perm (l : List Node) : (sortLeaves l).Perm l := sortBy_perm _ l

theorem length_appendTerms (L R : List (List Node)) : (appendTerms L R).length = L.length * R.length := by
  induction R with
  | nil => rfl
  | cons r R ih =>
    simp only [appendTerms, List.flatMap_cons, List.length_append, List.length_map, List.length_cons] at ih ⊢
    rw [ih, Nat.mul_succ, Nat.add_comm]

theorem length_mergeTerms (L R : List (List Node)) : (mergeTerms L R).length = L.length := by
  induction R generalizing L with
  | nil => rfl
  | cons r R ih => exact (ih _).trans (List.length_map _)

theorem expandTerm_ne_nil : ∀ n : Node, expandTerm n ≠ []
  | .lic .. | .ref .. => by simp [expandTerm]
  | .or l r => by simp [expandTerm, expandTerm_ne_nil l]
  | .and l r => by
    have hl := List.length_pos_iff.mpr (expandTerm_ne_nil l)
    have hr := List.length_pos_iff.mpr (expandTerm_ne_nil r)
    apply List.length_pos_iff.mp
    simp only [expandTerm]
    split
    · rw [length_appendTerms]; exact Nat.mul_pos hl hr
    · rw [length_mergeTerms]; exact hl

/-- `expandAnd` takes the `mergeTerms` route only when both operands have a single alternative, and
    `mergeTerms [a] [b] = [a ++ b] = appendTerms [a] [b]`: on values the choice does not show. -/
theorem expandTerm_and (l r : Node) : expandTerm (.and l r) = appendTerms (expandTerm l) (expandTerm r) := by
  simp only [expandTerm]
  split
  · rfl
  · rename_i h
    match hL : expandTerm l, hR : expandTerm r, expandTerm_ne_nil l, expandTerm_ne_nil r with
    | [a], [b], _, _ => rfl
    | _ :: _ :: _, _, _, _ => simp [hL] at h
    | _, _ :: _ :: _, _, _ => simp [hR] at h

theorem expand_eq (n : Node) : expand n = deepSort (expandTerm n) := by
  cases n <;> rfl

theorem dnf_append (p) (a b : List (List Node)) : dnf p (a ++ b) = (dnf p a || dnf p b) := by
  simp [dnf]

/-- for any `g`: `appendTerms` and `altsOf` enumerate the product in different orders -/
theorem dnf_product (p) (X Y : List (List Node)) (g : List Node → List Node → List Node)
    (hg : ∀ x y, (g x y).all p = (x.all p && y.all p)) :
    dnf p (X.flatMap fun x => Y.map (g x)) = (dnf p X && dnf p Y) := by
  simp only [dnf, List.any_flatMap, List.any_map, Function.comp_def, hg]
  induction X with
  | nil => rfl
  | cons x X ih => cases hx : x.all p <;> simp [ih, hx]

theorem dnf_appendTerms (p) (L R : List (List Node)) : dnf p (appendTerms L R) = (dnf p L && dnf p R) := by
  rw [Bool.and_comm]
  exact dnf_product p R L (fun r l => l ++ r) (fun r l => by rw [List.all_append, Bool.and_comm])

theorem dnf_deepSort (p) (ll : List (List Node)) : dnf p (deepSort ll) = dnf p ll := by
  simp only [dnf, deepSort, (sortBy_perm _ _).any_eq, List.any_map]
  congr 1
  funext c
  exact (sortBy_perm _ c).all_eq

theorem dnf_expandTerm (p) (n : Node) : dnf p (expandTerm n) = eval p n := by
  induction n with
  | lic | ref => simp [expandTerm, dnf, eval]
  | or l r ihl ihr => simp [expandTerm, dnf_append, ihl, ihr, eval]
  | and l r ihl ihr => rw [expandTerm_and, dnf_appendTerms, ihl, ihr, eval]

theorem dnf_expand (p) (n : Node) : dnf p (expand n) = eval p n := by
  rw [expand_eq, dnf_deepSort, dnf_expandTerm]

theorem dnf_altsOf (p) (n : Node) : dnf p (altsOf n) = eval p n := by
  induction n with
  | lic | ref => simp [altsOf, dnf, eval]
  | or l r ihl ihr => simp [altsOf, dnf_append, ihl, ihr, eval]
  | and l r ihl ihr =>
    rw [altsOf, dnf_product p _ _ (· ++ ·) (fun _ _ => List.all_append), ihl, ihr, eval]

/-- the verdict loop of `Satisfies`, for any single-term matcher, is the Boolean value of the tree -/
theorem verdictBy_eq_eval (m : Node → Node → Bool) (n : Node) (A : List Node) :
    verdictBy m n A = eval (coveredBy m A) n :=
  dnf_expand (coveredBy m A) n

theorem leaves_isLeaf (n : Node) : ∀ l ∈ leaves n, l.isLeaf = true := by
  induction n with
  | lic | ref => intro l hl; cases List.mem_singleton.mp hl; rfl
  | and a b iha ihb | or a b iha ihb => intro l hl; exact (List.mem_append.mp hl).elim (iha l) (ihb l)

theorem exists_leaf (n : Node) : ∃ t, t ∈ leaves n := by
  induction n with
  | lic | ref => exact ⟨_, List.mem_singleton.mpr rfl⟩
  | and a b iha _ | or a b iha _ => exact iha.imp fun t ht => List.mem_append_left _ ht

theorem mem_flatten_appendTerms {L R : List (List Node)} (hL : L ≠ []) (hR : R ≠ []) (x : Node) :
    x ∈ (appendTerms L R).flatten ↔ x ∈ L.flatten ∨ x ∈ R.flatten := by
  obtain ⟨l₀, hl₀⟩ := List.exists_mem_of_ne_nil L hL
  obtain ⟨r₀, hr₀⟩ := List.exists_mem_of_ne_nil R hR
  simp only [appendTerms, List.mem_flatten, List.mem_flatMap, List.mem_map]
  constructor
  · rintro ⟨_, ⟨r, hr, l, hl, rfl⟩, hx⟩
    exact (List.mem_append.mp hx).imp (fun h => ⟨l, hl, h⟩) (fun h => ⟨r, hr, h⟩)
  · rintro (⟨l, hl, hx⟩ | ⟨r, hr, hx⟩)
    · exact ⟨l ++ r₀, ⟨r₀, hr₀, l, hl, rfl⟩, List.mem_append_left _ hx⟩
    · exact ⟨l₀ ++ r, ⟨r, hr, l₀, hl₀, rfl⟩, List.mem_append_right _ hx⟩

theorem mem_flatten_expandTerm (n : Node) (x : Node) : x ∈ (expandTerm n).flatten ↔ x ∈ leaves n := by
  induction n with
  | lic | ref => simp [expandTerm, leaves]
  | or l r ihl ihr => simp [expandTerm, leaves, ihl, ihr]
  | and l r ihl ihr =>
    rw [expandTerm_and, mem_flatten_appendTerms (expandTerm_ne_nil l) (expandTerm_ne_nil r), ihl, ihr, leaves,
      List.mem_append]

theorem mem_flatten_deepSort (ll : List (List Node)) (x : Node) : x ∈ (deepSort ll).flatten ↔ x ∈ ll.flatten := by
  rw [deepSort, (sortBy_perm _ _).flatten.mem_iff, ← List.flatMap_def, List.mem_flatMap, List.mem_flatten]
  simp only [(sortLeaves_perm _).mem_iff]

theorem mem_flatten_expand (n : Node) (x : Node) : x ∈ (expand n).flatten ↔ x ∈ leaves n := by
  rw [expand_eq, mem_flatten_deepSort, mem_flatten_expandTerm]

theorem eval_mono_on (p q : Node → Bool) (n : Node) (h : ∀ t ∈ leaves n, p t = true → q t = true) :
    eval p n = true → eval q n = true := by
  induction n with
  | lic | ref => exact h _ (List.mem_singleton_self _)
  | and l r ihl ihr =>
    simp only [eval, Bool.and_eq_true]
    exact And.imp (ihl fun t m => h t (List.mem_append_left _ m)) (ihr fun t m => h t (List.mem_append_right _ m))
  | or l r ihl ihr =>
    simp only [eval, Bool.or_eq_true]
    exact Or.imp (ihl fun t m => h t (List.mem_append_left _ m)) (ihr fun t m => h t (List.mem_append_right _ m))

theorem eval_mono (p q : Node → Bool) (n : Node) (h : ∀ t, p t = true → q t = true) :
    eval p n = true → eval q n = true :=
  eval_mono_on p q n fun t _ => h t

theorem eval_of_leaves (p : Node → Bool) (n : Node) (h : ∀ t ∈ leaves n, p t = true) : eval p n = true :=
  have all : ∀ m : Node, eval (fun _ => true) m = true := fun m => by induction m <;> simp [eval, *]
  eval_mono_on (fun _ => true) p n (fun t m _ => h t m) (all n)

theorem coveredBy_mono (m : Node → Node → Bool) {A B : List Node} (h : ∀ a ∈ A, a ∈ B) (t : Node) :
    coveredBy m A t = true → coveredBy m B t = true := by
  rw [coveredBy, coveredBy, List.any_eq_true, List.any_eq_true]
  exact fun ⟨a, ha, hm⟩ => ⟨a, h a ha, hm⟩

theorem coveredBy_set (m : Node → Node → Bool) {A B : List Node} (h : ∀ a, a ∈ A ↔ a ∈ B) : coveredBy m A = coveredBy m B :=
  funext fun t => Bool.eq_iff_iff.2 ⟨coveredBy_mono m (fun a => (h a).1) t, coveredBy_mono m (fun a => (h a).2) t⟩

theorem dedup_mem (seen xs : List Bytes) (x : Bytes) : x ∈ dedup seen xs ↔ x ∈ xs ∧ x ∉ seen := by
  induction xs generalizing seen with
  | nil => simp [dedup]
  | cons y ys ih =>
    by_cases hxy : x = y
    · subst hxy; by_cases hx : x ∈ seen <;> simp [dedup, ih, hx]
    · by_cases hy : y ∈ seen <;> simp [dedup, ih, hy, hxy]

theorem dedup_nodup (seen xs : List Bytes) : (dedup seen xs).Nodup := by
  induction xs generalizing seen with
  | nil => simp [dedup]
  | cons y ys ih =>
    simp only [dedup]
    split
    · exact ih seen
    · exact List.nodup_cons.mpr ⟨by simp [dedup_mem], ih _⟩

end Spdx
