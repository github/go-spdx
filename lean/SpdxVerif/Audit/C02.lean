import SpdxVerif.Props.C02
import SpdxVerif.Props.Consts
import SpdxVerif.Lemmas.MatchSpec
import SpdxVerif.Props.C03Match
#print axioms Spdx.C02.matchLeaf_symm
#print axioms Spdx.C02.matchLeaf_refl
#print axioms Spdx.C02.lic_never_matches_ref
#print axioms Spdx.C02.ref_match_iff
#print axioms Spdx.C02.exception_gate
#print axioms Spdx.C02.same_id_matches
#print axioms Spdx.C02.version_rule
#print axioms Spdx.C02.unranged_matches_only_itself
#print axioms Spdx.C02.orLater_counts_as_plus
#print axioms Spdx.C02.pos_ignores_orLater
#print axioms Spdx.ConstsPin.simplifyLicense_literals
#print axioms Spdx.ConstsPin.parseLicense_literals
#print axioms Spdx.C02.matchLeaf_eq_spec
#print axioms Spdx.C02.matchLeaf_eq_spec_parsed
#print axioms Spdx.render_fold_inj
#print axioms Spdx.parse_leavesOK
#print axioms Spdx.C03.g_match_refines
