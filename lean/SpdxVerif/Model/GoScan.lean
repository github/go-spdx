/-
Model/GoScan — "layer G", part 2: the scanner of spdxexp/scan.go transliterated function by function with its private
buffer, its integer cursor and every slice expression made explicit:

  * `sl s lo hi`   — `s[lo:hi]` with Go's bounds rule (0 ≤ lo ≤ hi ≤ len(s)), indices are `Int` (so that `index-2` can be
                     negative when a guard is missing); out of bounds is `panic`
  * the `-or-later` rewrite really rebuilds the buffer (`expression[0:index-9] + "+" + TrimPrefix(expression[index:], "+")`)

`Lemmas/GoScanRefine.lean` proves that on every byte string it returns the main model's token sequence, so `panic` is
unreachable (every state reached has the cursor inside the buffer), `Props/C03.lean` states it; the driver's `Q`
operation runs this scanner + the Go-shaped parser against the implementation and also reports whether it agrees with
the suffix-based model used everywhere else.
-/
import SpdxVerif.Model.GoShaped
namespace Spdx.G

/-- `s[lo:hi]` -/
def sl (s : Bytes) (lo hi : Int) : Out Bytes :=
  if 0 ≤ lo ∧ lo ≤ hi ∧ hi ≤ (s.length : Int) then .ok ((s.drop lo.toNat).take (hi - lo).toNat) else .panic

/-- `s[i]` -/
def at' (s : Bytes) (i : Int) : Out Nat :=
  if 0 ≤ i ∧ i < (s.length : Int) then .ok (s.getD i.toNat 0) else .panic

/-- the expression stream: private buffer, cursor, error flag (the error TEXT is irrelevant for panics) -/
structure ES where
  expr : Bytes
  idx : Nat
  err : Bool
  deriving Repr

def esMore (e : ES) : Bool := e.idx < e.expr.length

/-- `readRegex` for the two patterns in use: a character class with `*` or `+` (a maximal run at the cursor) -/
def readRegex (cls : Nat → Bool) (e : ES) : Out (Bytes × ES) :=
  (sl e.expr e.idx e.expr.length).bind fun rest =>
    let m := (rest.takeWhile cls).length
    -- `i != nil && i[1] > 0 && i[0] == 0`
    if m > 0 then (sl rest 0 m).bind fun r => .ok (r, { e with idx := e.idx + m }) else .ok ([], e)

/-- `read(next)` -/
def read (next : Bytes) (e : ES) : Out (Bytes × ES) :=
  (sl e.expr e.idx e.expr.length).bind fun rest =>
    if next.isPrefixOf rest then .ok (next, { e with idx := e.idx + next.length }) else .ok ([], e)

def skipWhitespace (e : ES) : Out ES := (readRegex isSp e).bind fun (_, e) => .ok e

/-- the loop of `readOperator` over the possibilities -/
def readOps : List (Bytes × Op) → ES → Out (Option (Bytes × Op) × ES)
  | [], e => .ok (none, e)
  | (p, o) :: rest, e =>
    (read p e).bind fun (got, e) => if got.length > 0 then .ok (some (p, o), e) else readOps rest e

/-- `readOperator`, with the `+` look-behind `exp.index > 1 && exp.expression[exp.index-2:exp.index-1] == " "` -/
def readOperator (e : ES) : Out (Option Op × ES) :=
  (readOps opTable e).bind fun (r, e) =>
    match r with
    | none => .ok (none, e)
    | some (p, o) =>
      if p == bPlus && e.idx > 1 then
        (sl e.expr ((e.idx : Int) - 2) ((e.idx : Int) - 1)).bind fun c =>
          if c == [32] then .ok (none, { e with err := true, idx := e.idx - 1 }) else .ok (some o, e)
      else .ok (some o, e)

def readID (e : ES) : Out (Bytes × ES) :=
  (readRegex isIdChar e).bind fun (id, e) => if id.length = 0 then .ok ([], { e with err := true }) else .ok (id, e)

def readRef (pre : Bytes) (mk : Bytes → Tok) (e : ES) : Out (Option Tok × ES) :=
  (read pre e).bind fun (r, e) =>
    if r.length = 0 then .ok (none, e) else
    (readID e).bind fun (id, e) => if e.err then .ok (none, e) else .ok (some (mk id), e)

/-- `normalizeLicense` (the lookups are the model's; the slices are the Go code's) -/
def normalizeLicense (license : Bytes) (e : ES) : Out (Option (List Tok) × ES) :=
  match licenseLookup license with
  | some t => .ok (some [t], e)
  | none =>
  let len : Int := license.length
  let step2 : Out (Option Tok) :=
    if sufOnly.isSuffixOf license then (sl license 0 (len - 5)).bind fun adj => .ok (licenseLookup adj) else .ok none
  step2.bind fun r2 =>
  match r2 with
  | some t => .ok (some [t], e)
  | none =>
  let step3 : Out (Option Tok) :=
    if esMore e then
      (sl e.expr e.idx ((e.idx : Int) + 1)).bind fun c =>
        if c == bPlus then (sl license 0 len).bind fun base => .ok (licenseLookup (base ++ sufOrLater)) else .ok none
    else .ok none
  step3.bind fun r3 =>
  match r3 with
  | some t => .ok (some [t], { e with idx := e.idx + 1 })
  | none =>
  if sufOrLater.isSuffixOf license then
    (sl license 0 (len - 9)).bind fun adj =>
      match licenseLookup adj with
      | some t =>
        (sl e.expr 0 ((e.idx : Int) - 9)).bind fun head =>
          (sl e.expr e.idx e.expr.length).bind fun tail =>
            let tail' := if bPlus.isPrefixOf tail then tail.drop 1 else tail     -- strings.TrimPrefix(…, "+")
            -- the `+` left in the buffer is read as the operator by the next iteration; it is reported here as a token
            -- of this step only through the rewritten buffer
            .ok (some [t], { e with expr := head ++ bPlus ++ tail', idx := e.idx - 9 })
      | none => .ok ((lookup Tables.deprecated license).map (fun c => [.lic c]), e)
  else .ok ((lookup Tables.deprecated license).map (fun c => [.lic c]), e)

def readLicense (e : ES) : Out (Option (List Tok) × ES) :=
  let index := e.idx
  (readID e).bind fun (license, e) =>
    if e.err then .ok (none, e) else
    (normalizeLicense license e).bind fun (t, e) =>
      match t with
      | some ts => .ok (some ts, e)
      | none => .ok (none, { e with idx := index, err := true })

/-- `parseToken` (ordering matters) -/
def parseToken (e : ES) : Out (Option (List Tok) × ES) :=
  (readOperator e).bind fun (op, e) =>
    if e.err then .ok (none, e) else
    match op with
    | some o => .ok (some [.op o], e)
    | none =>
    (readRef docRefPrefix .docRef e).bind fun (d, e) =>
      if e.err then .ok (none, e) else
      match d with
      | some t => .ok (some [t], e)
      | none =>
      (readRef licRefPrefix .licRef e).bind fun (l, e) =>
        if e.err then .ok (none, e) else
        match l with
        | some t => .ok (some [t], e)
        | none =>
        (readLicense e).bind fun (id, e) =>
          if e.err then .ok (none, e) else
          match id with
          | some ts => .ok (some ts, e)
          | none =>
            -- `fmt.Sprintf("unexpected '%c' …", exp.expression[exp.index], …)`: dead code in the source, kept here
            (at' e.expr e.idx).bind fun _ => .ok (none, { e with err := true })

/-- the loop of `scan`; `none` = an error was returned -/
def scanLoopG : Nat → ES → List Tok → Out (Option (List Tok))
  | 0, _, acc => .ok (some acc)
  | fuel+1, e, acc =>
    if !esMore e then .ok (some acc) else
    (skipWhitespace e).bind fun e =>
      if !esMore e then .ok (some acc) else
      (parseToken e).bind fun (t, e) =>
        if e.err then .ok none else
        match t with
        | none => .ok none
        | some ts => scanLoopG fuel e (acc ++ ts)

/-- `scan`: every iteration consumes at least one byte of a buffer that never grows, so `2·|s|+2` iterations suffice -/
def scanG (s : Bytes) : Out (Option (List Tok)) := scanLoopG (2 * s.length + 2) ⟨s, 0, false⟩ []

/-- `parse`, Go-shaped throughout -/
def parseG (s : Bytes) : Out (Option Node) :=
  if s.isEmpty then .ok none else
  (scanG s).bind fun r =>
    match r with
    | none => .ok none
    | some ts => parseTokens ts

end Spdx.G
