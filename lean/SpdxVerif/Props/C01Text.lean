/-
C01 (string level) — the Boolean reading of the TEXT: a tree written with the minimal parentheses of the documented grammar
(AND binds tighter than OR, parentheses group, chains nest to the right) is read back as exactly that tree, for every tree
over well-formed terms; hence `Satisfies` on that text is the Boolean value of the tree.
-/
import SpdxVerif.Lemmas.RenderTree
import SpdxVerif.Props.C07List
namespace Spdx.C01

/-- **precedence and grouping at the level of bytes**: for EVERY tree over well-formed terms -/
theorem parse_rendered (n : Node) (h : AllLeavesOK n) : parse (rExpr n) = .ok n :=
  parse_iff_D.mpr (rend_D n .expr h)

/-- every valid expression can be re-written canonically (minimal parentheses, single spaces, list casing) without
    changing its tree -/
theorem canonical_rewrite (s : Bytes) (n : Node) (h : parse s = .ok n) : parse (rExpr n) = .ok n :=
  parse_rendered n (parse_leavesOK s n h)

/-- **C01 on texts**: `Satisfies` applied to the text of a tree returns the Boolean value of the tree under "a term is true
    iff some allowed entry's term matches it" -/
theorem satisfies_rendered (n : Node) (L : List Bytes) (A : List Node) (h : AllLeavesOK n) (hL : L ≠ [])
    (hA : toNodes L = .ok A) : satisfies (rExpr n) L = .ok (eval (covered A) n) :=
  C07.satisfies_eq (rExpr n) L n A (parse_rendered n h) hL hA

theorem rend_leaf {n : Node} (h : n.isLeaf = true) (lv : Lvl) : rend n lv = render n := by
  cases n with
  | lic | ref => rfl
  | and | or => cases h

/-- the three readings the property names, as texts: `a OR b AND c`, `a AND b OR c`, `(a OR b) AND c` -/
theorem or_and_text (a b c : Node) (ha : a.isLeaf = true) (hb : b.isLeaf = true) (hc : c.isLeaf = true)
    (h : AllLeavesOK (.or a (.and b c))) :
    parse (render a ++ (kwOr ++ 32 :: (render b ++ (kwAnd ++ 32 :: render c)))) = .ok (.or a (.and b c)) := by
  simpa only [rExpr, rend, rend_leaf ha, rend_leaf hb, rend_leaf hc] using parse_rendered _ h

theorem and_or_text (a b c : Node) (ha : a.isLeaf = true) (hb : b.isLeaf = true) (hc : c.isLeaf = true)
    (h : AllLeavesOK (.or (.and a b) c)) :
    parse ((render a ++ (kwAnd ++ 32 :: render b)) ++ (kwOr ++ 32 :: render c)) = .ok (.or (.and a b) c) := by
  simpa only [rExpr, rend, rend_leaf ha, rend_leaf hb, rend_leaf hc] using parse_rendered _ h

theorem paren_or_and_text (a b c : Node) (ha : a.isLeaf = true) (hb : b.isLeaf = true) (hc : c.isLeaf = true)
    (h : AllLeavesOK (.and (.or a b) c)) :
    parse ((40 :: ((render a ++ (kwOr ++ 32 :: render b)) ++ [41])) ++ (kwAnd ++ 32 :: render c)) = .ok (.and (.or a b) c) := by
  simpa only [rExpr, rend, rend_leaf ha, rend_leaf hb, rend_leaf hc] using parse_rendered _ h

section
private def mit : Node := .lic [77,73,84] false none
private def isc : Node := .lic [73,83,67] false none
private def zlib : Node := .lic [90,108,105,98] false none
-- "MIT OR ISC AND Zlib"
example : rExpr (.or mit (.and isc zlib)) = str "MIT OR ISC AND Zlib" := by decide +kernel
-- "(MIT OR ISC) AND Zlib"
example : rExpr (.and (.or mit isc) zlib) = str "(MIT OR ISC) AND Zlib" := by decide +kernel
-- "(MIT AND ISC) AND Zlib": a left-nested chain keeps its parentheses
example : rExpr (.and (.and mit isc) zlib) = str "(MIT AND ISC) AND Zlib" := by decide +kernel
example : (match parse (str "MIT OR ISC AND Zlib") with | .ok n => n == .or mit (.and isc zlib) | .error _ => false) = true := by
  decide +kernel
end

end Spdx.C01
