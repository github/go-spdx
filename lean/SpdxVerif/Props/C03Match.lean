/-
Props/C03Match — C03 / C02: single-term matching with pointers (layer G part 7) never dereferences nil and computes the
main model's `matchLeaf`, for every pair of nodes the parser can build (terms AND expression nodes).
-/
import SpdxVerif.Model.GoMatch
import SpdxVerif.Props.C03
namespace Spdx.G

theorem star_some {α} (a : α) : star (some a) = .ok a := rfl

theorem acc_lic (id : Bytes) (p : Bool) (e : Option Bytes) :
    isLicense (toG (.lic id p e)) = true ∧ licenseP (toG (.lic id p e)) = .ok (some id) ∧
    hasPlusG (toG (.lic id p e)) = .ok p ∧ hasExceptionG (toG (.lic id p e)) = .ok e.isSome ∧
    exceptionP (toG (.lic id p e)) = .ok e :=
  ⟨rfl, rfl, rfl, rfl, by cases e <;> rfl⟩

theorem acc_ref (d : Option Bytes) (i : Bytes) :
    isLicenseRef (toG (.ref d i)) = true ∧ licenseRefP (toG (.ref d i)) = .ok (some i) ∧
    hasDocumentRefG (toG (.ref d i)) = .ok d.isSome ∧ documentRefP (toG (.ref d i)) = .ok d :=
  ⟨rfl, rfl, rfl, by cases d <;> rfl⟩

/-- the common tail of `compareGT` and `compareEQ`: after the `sameLicenseGroup` guard both range pointers
    are non-nil -/
theorem rangeCmp_ok (r : Nat → Nat → Bool) (p q : Option (Nat × Nat)) :
    (if !sameGroup p q then Out.ok false else
      (star p).bind fun ra => (star q).bind fun rb => .ok (r ra.2 rb.2))
    = .ok (match p, q with | some (i, j), some (k, l) => i == k && r j l | _, _ => false) := by
  rcases p with _ | ⟨i, j⟩ <;> rcases q with _ | ⟨k, l⟩ <;> try rfl
  cases h : i == k <;> simp [sameGroup, h, star, Out.bind]

end Spdx.G

namespace Spdx.C03
open Spdx.G

theorem g_reconstructed_lic (id : Bytes) (p : Bool) (e : Option Bytes) :
    reconstructedP (toG (.lic id p e)) = .ok (some (render (.lic id p e))) := by
  -- on a licence node no accessor fails its role test (`acc_lic`), and the exception pointer is read only under
  -- `hasException`; what is left is `render` spelt with `if`s
  unfold reconstructedP
  simp only [show (toG (.lic id p e)).role = .license from rfl, acc_lic, star_some, bind_ok]
  cases e <;> cases p <;> simp [render, star_some, bind_ok]

theorem g_reconstructed_ref (d : Option Bytes) (i : Bytes) :
    reconstructedP (toG (.ref d i)) = .ok (some (render (.ref d i))) := by
  unfold reconstructedP
  simp only [show (toG (.ref d i)).role = .licenseRef from rfl, acc_ref, star_some, bind_ok]
  cases d <;> simp [render, star_some, bind_ok]

theorem g_compareGT (a b : Bytes) (pa pb : Bool) (ea eb : Option Bytes) :
    compareGTG (toG (.lic a pa ea)) (toG (.lic b pb eb)) = .ok (compareGT a b) := by
  simp only [compareGTG, acc_lic, star_some, bind_ok, Bool.not_true, Bool.or_self, Bool.false_eq_true, if_false]
  exact rangeCmp_ok (fun x y => decide (x > y)) (pos a) (pos b)

theorem g_compareEQ (a b : Bytes) (pa pb : Bool) (ea eb : Option Bytes) :
    compareEQG (toG (.lic a pa ea)) (toG (.lic b pb eb)) = .ok (compareEQ a b) := by
  simp only [compareEQG, acc_lic, star_some, bind_ok, Bool.not_true, Bool.or_self, Bool.false_eq_true, if_false]
  unfold compareEQ
  show (if (a == b) = true then _ else _) = _
  cases a == b
  · exact rangeCmp_ok (fun x y => x == y) (pos a) (pos b)
  · rfl

theorem g_exceptions (a b : Bytes) (pa pb : Bool) (ea eb : Option Bytes) :
    exceptionsAreCompatibleG (toG (.lic a pa ea)) (toG (.lic b pb eb)) = .ok (ea == eb) := by
  simp only [exceptionsAreCompatibleG, acc_lic, bind_ok]
  cases ea <;> cases eb <;> rfl

theorem licenseRefsAreCompatibleG_ref (da db : Option Bytes) (a b : Bytes) :
    licenseRefsAreCompatibleG (toG (.ref da a)) (toG (.ref db b)) = .ok (a == b && da == db) := by
  simp only [licenseRefsAreCompatibleG, acc_ref, star_some, bind_ok, Bool.not_true, Bool.or_self, Bool.false_eq_true, if_false]
  cases da <;> cases db <;> cases a == b <;> rfl

theorem licensesAreCompatibleG_lic (a b : Bytes) (pa pb : Bool) (ea eb : Option Bytes) :
    licensesAreCompatibleG (toG (.lic a pa ea)) (toG (.lic b pb eb)) = .ok (matchLeaf (.lic a pa ea) (.lic b pb eb)) := by
  -- each stage of `licensesAreCompatible` (node.go) is rewritten by its lemma above: the exception gate (`g_exceptions`), the
  -- `EqualFold` shortcut on the reconstructed strings, the range tests of compare.go (`g_compareGT`, `g_compareEQ`); what is
  -- left is `matchLeaf` unfolded
  simp only [licensesAreCompatibleG, licensesExactlyEqualG, identifierInRangeG, rangesAreCompatibleG, acc_lic,
    g_exceptions, g_reconstructed_lic, g_compareGT, g_compareEQ, star_some, bind_ok,
    Bool.not_true, Bool.or_self, Bool.false_eq_true, if_false, ← apply_ite Out.ok, matchLeaf,
    -- `if g { return true }; return e` is the model's `g || e`
    Bool.if_true_left, Bool.decide_eq_true]
  rfl

theorem matchG_ok {x y : GNode} {l r : Bool} (hl : licensesAreCompatibleG x y = .ok l)
    (hr : licenseRefsAreCompatibleG x y = .ok r) : matchG x y = .ok (l || r) := by
  unfold matchG; rw [hl, bind_ok, hr]; cases l <;> rfl

/-- **matching with pointers = the model's `matchLeaf`**, on every pair of nodes — no accessor result, partial or range
    pointer is dereferenced while nil -/
theorem g_match_refines (x y : Node) : matchG (toG x) (toG y) = .ok (matchLeaf x y) := by
  cases x <;> cases y
  case lic.lic => exact (matchG_ok (licensesAreCompatibleG_lic ..) (r := false) rfl).trans (by rw [Bool.or_false])
  case ref.ref => exact matchG_ok (l := false) rfl (licenseRefsAreCompatibleG_ref ..)
  -- every other pair fails the role test at the head of both halves: both sides compute to `false`
  all_goals rfl

theorem g_match_never_panics (x y : Node) : matchG (toG x) (toG y) ≠ .panic :=
  Out.IsOk.ne_panic ⟨_, g_match_refines x y⟩

theorem anyG_ok {α} (f : α → Out Bool) (g : α → Bool) (h : ∀ x, f x = .ok (g x)) (l : List α) : anyG f l = .ok (l.any g) := by
  induction l with
  | nil => rfl
  | cons x xs ih => simp only [anyG, h x, Out.bind, ih, List.any_cons]; cases g x <;> simp

theorem allG_ok {α} (f : α → Out Bool) (g : α → Bool) (h : ∀ x, f x = .ok (g x)) (l : List α) : allG f l = .ok (l.all g) := by
  induction l with
  | nil => rfl
  | cons x xs ih => simp only [allG, h x, Out.bind, ih, List.all_cons]; cases g x <;> simp

/-- the two loops of `isCompatible` over pointer-level matching = the model's `isCompatible` -/
theorem g_isCompatible_refines (part allowed : List Node) : isCompatibleG part allowed = .ok (isCompatible part allowed) := by
  unfold isCompatibleG isCompatible isCompatibleBy
  exact allG_ok _ _ (fun e => anyG_ok _ _ (fun a => g_match_refines e a) allowed) part

/-- the layer expresses the defect: a licence-role node whose partial is nil panics in `hasPlus()` -/
example : (match hasPlusG { role := .license, lic := none, ref := none } with | .panic => true | .ok _ => false) = true := by decide
/-- … and so does `firstRange.location[...]` without the `sameLicenseGroup` guard, for an id outside the table -/
example : (match (star (none : Option (Nat × Nat))) with | .panic => true | .ok _ => false) = true := by decide

/-- functions of package spdxexp that contain a `*` expression (dereferences, and pointer types written in bodies), with
    their number.  Modelled, and shown never to meet nil: the accessor results dereferenced in `compareGT`, `compareEQ`,
    `reconstructedLicenseString`, `licenseRefsAreCompatible`, `rangesAreCompatible`, `exceptionsAreCompatible`,
    `licensesExactlyEqual` (part 7, above); `*reconstructedLicenseString()` in `ExtractLicenses`, `sortLicenses`, `sortAndDedup`,
    `deepSort` (parts 3–4).  Read, not modelled: `compareLT` (`compareGT` with `<`; only tests call it) and `isOr/AndExpression`
    (`*n.conjunction()` behind the `isExpression` test that `conjunction` repeats).  The remaining ones are pointer TYPES
    (`[]*node`, `*node` in composite literals and `make`) or `node.string` (debug output, never called by the exported
    functions). -/
def derefSites : List (Bytes × Nat) :=
  (Census.partialOps.filter (fun p => !Nat.beq p.2.2.2.2.1 0)).map (fun p => (p.2.1, p.2.2.2.2.1))

/-- a new dereference anywhere in the package breaks this obligation until it has been looked at -/
theorem deref_sites_accounted : beqSites derefSites
    [(name "compareGT", 2),
     (name "compareLT", 2),
     (name "compareEQ", 2),
     (name "ExtractLicenses", 1),
     (name "node.isOrExpression", 1),
     (name "node.isAndExpression", 1),
     (name "node.reconstructedLicenseString", 4),
     (name "sortLicenses", 2),
     (name "nodePair.licenseRefsAreCompatible", 4),
     (name "nodePair.rangesAreCompatible", 4),
     (name "nodePair.exceptionsAreCompatible", 4),
     (name "nodePair.licensesExactlyEqual", 2),
     (name "tokenStream.parseExpression", 1),
     (name "tokenStream.parseLicense", 1),
     (name "node.string", 3),
     (name "stringsToNodes", 1),
     (name "node.expand", 2),
     (name "node.expandOr", 1),
     (name "expandOrTerm", 1),
     (name "expandAndTerm", 2),
     (name "appendTerms", 2),
     (name "sortAndDedup", 2),
     (name "deepSort", 2),
     (name "scan", 2)] = true := by
  decide +kernel

end Spdx.C03
