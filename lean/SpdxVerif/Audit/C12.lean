import SpdxVerif.Props.C12
import SpdxVerif.Props.C12Valid
#print axioms Spdx.C12.active_eq_json
#print axioms Spdx.C12.deprecated_eq_json
#print axioms Spdx.C12.exceptions_eq_json
#print axioms Spdx.C12.get_licenses_go_exact
#print axioms Spdx.C12.get_deprecated_go_exact
#print axioms Spdx.C12.get_exceptions_go_exact
#print axioms Spdx.C12.lists_fold_unique
#print axioms Spdx.C12.lists_ascii
#print axioms Spdx.C12.listed_license_valid
#print axioms Spdx.C12.exception_only_after_with
#print axioms Spdx.C12.exception_only_after_with_grammar
#print axioms Spdx.C12.exception_word_is_exception_token
#print axioms Spdx.C12.D_head_not_exc
#print axioms Spdx.C12.valid_exception_only_after_with
