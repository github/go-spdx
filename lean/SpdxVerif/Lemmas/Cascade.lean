/-
Lemmas/Cascade — the normalisation cascade of `normalizeLicense` as a function of "is the next byte `+`" (`normCore`), and
the five ways it answers (`Cascade`, `normCore_inv`): every fact about the cascade is read off these.
-/
import SpdxVerif.Model.Scan
namespace Spdx

theorem stripSuffix_some_iff {w suf v : Bytes} : stripSuffix? w suf = some v ↔ w = v ++ suf := by
  unfold stripSuffix?
  split
  next hs => obtain ⟨t, rfl⟩ := List.isSuffixOf_iff_suffix.mp hs; simp
  next hs =>
    simp only [reduceCtorEq, false_iff]
    rintro rfl
    exact hs (List.isSuffixOf_iff_suffix.mpr (List.suffix_append _ _))

theorem stripSuffix_append (w suf : Bytes) : stripSuffix? (w ++ suf) suf = some w :=
  stripSuffix_some_iff.mpr rfl

/-- `normalize` as a function of "is the next byte `+`"; the flag in the result says whether that `+` is consumed -/
def normCore (w : Bytes) (np : Bool) : Option (List Tok × Bool) :=
  match licenseLookup w with
  | some t => some ([t], false)
  | none =>
  match (stripSuffix? w sufOnly).bind licenseLookup with
  | some t => some ([t], false)
  | none =>
  match (if np then licenseLookup (w ++ sufOrLater) else none) with
  | some t => some ([t], true)
  | none =>
  match (stripSuffix? w sufOrLater).bind licenseLookup with
  | some t => some ([t, .op .plus], np)
  | none =>
  match lookup Tables.deprecated w with
  | some c => some ([.lic c], false)
  | none => none

theorem normalize_eq_core (w rest : Bytes) :
    normalize w rest = (normCore w (rest.head? == some 43)).map (fun p => (p.1, if p.2 then rest.tail else rest)) := by
  unfold normalize normCore
  cases licenseLookup w <;> simp only [Option.map_some, Bool.false_eq_true, ↓reduceIte]
  cases (stripSuffix? w sufOnly).bind licenseLookup <;> simp only [Option.map_some, Bool.false_eq_true, ↓reduceIte]
  simp only [beq_iff_eq]
  cases (if rest.head? = some 43 then licenseLookup (w ++ sufOrLater) else none) <;> simp only [Option.map_some, ↓reduceIte]
  cases (stripSuffix? w sufOrLater).bind licenseLookup <;> simp only [Option.map_some, beq_iff_eq]
  · cases lookup Tables.deprecated w <;> simp only [Option.map_some, Option.map_none, Bool.false_eq_true, ↓reduceIte]
  · split <;> rfl

inductive Cascade (w : Bytes) (np : Bool) : List Tok → Bool → Prop
  | self {t} : licenseLookup w = some t → Cascade w np [t] false
  | only {v t} : licenseLookup w = none → stripSuffix? w sufOnly = some v → licenseLookup v = some t → Cascade w np [t] false
  | later {t} : licenseLookup w = none → (stripSuffix? w sufOnly).bind licenseLookup = none → np = true →
      licenseLookup (w ++ sufOrLater) = some t → Cascade w np [t] true
  | plus {v t} : licenseLookup w = none → (stripSuffix? w sufOnly).bind licenseLookup = none →
      (np = true → licenseLookup (w ++ sufOrLater) = none) → stripSuffix? w sufOrLater = some v → licenseLookup v = some t →
      Cascade w np [t, .op .plus] np
  | deprecated {c} : licenseLookup w = none → (stripSuffix? w sufOnly).bind licenseLookup = none →
      (np = true → licenseLookup (w ++ sufOrLater) = none) → (stripSuffix? w sufOrLater).bind licenseLookup = none →
      lookup Tables.deprecated w = some c → Cascade w np [.lic c] false

theorem normCore_inv {w : Bytes} {np : Bool} {tk : List Tok} {k : Bool} (h : normCore w np = some (tk, k)) :
    Cascade w np tk k := by
  unfold normCore at h
  rcases h1 : licenseLookup w with _ | t <;> simp only [h1] at h
  case some => cases h; exact .self h1
  rcases h2 : (stripSuffix? w sufOnly).bind licenseLookup with _ | t <;> simp only [h2] at h
  case some => cases h; obtain ⟨v, hv, ht⟩ := Option.bind_eq_some_iff.mp h2; exact .only h1 hv ht
  rcases h3 : (if np = true then licenseLookup (w ++ sufOrLater) else none) with _ | t <;> simp only [h3] at h
  case some => cases h; cases np <;> simp at h3; exact .later h1 h2 rfl h3
  have h3' : np = true → licenseLookup (w ++ sufOrLater) = none := fun hnp => by simpa [hnp] using h3
  rcases h4 : (stripSuffix? w sufOrLater).bind licenseLookup with _ | t <;> simp only [h4] at h
  case some => cases h; obtain ⟨v, hv, ht⟩ := Option.bind_eq_some_iff.mp h4; exact .plus h1 h2 h3' hv ht
  rcases h5 : lookup Tables.deprecated w with _ | c <;> simp only [h5] at h
  · cases h
  · cases h; exact .deprecated h1 h2 h3' h4 h5

theorem normCore_self {w : Bytes} {t : Tok} (h : licenseLookup w = some t) (np : Bool) : normCore w np = some ([t], false) := by
  simp only [normCore, h]

theorem normCore_flag {w : Bytes} {np : Bool} {tk : List Tok} {k : Bool} (h : normCore w np = some (tk, k)) :
    k = true → np = true := by
  cases normCore_inv h with
  | later _ _ hnp _ => exact fun _ => hnp
  | plus => exact id
  | self | only | deprecated => exact fun hk => nomatch hk

theorem normCore_length {w : Bytes} {np : Bool} {tk : List Tok} {k : Bool} (h : normCore w np = some (tk, k)) :
    tk.length = 1 ∨ tk.length = 2 ∧ sufOrLater.length ≤ w.length := by
  cases normCore_inv h with
  | self | only | later | deprecated => exact .inl rfl
  | plus _ _ _ hs _ =>
    obtain rfl := stripSuffix_some_iff.mp hs
    exact .inr ⟨rfl, by simp⟩

theorem normCore_isSome (w : Bytes) (np : Bool) : (normCore w np).isSome =
    ((licenseLookup w).isSome || ((stripSuffix? w sufOnly).bind licenseLookup).isSome ||
     (np && (licenseLookup (w ++ sufOrLater)).isSome) ||
     ((stripSuffix? w sufOrLater).bind licenseLookup).isSome || (lookup Tables.deprecated w).isSome) := by
  unfold normCore
  -- a step that answers makes both sides `true` whatever the later steps say: only where the first two fail are those split
  rcases licenseLookup w with _ | _
  case some => rfl
  rcases (stripSuffix? w sufOnly).bind licenseLookup with _ | _
  case some => rfl
  cases np <;> cases licenseLookup (w ++ sufOrLater) <;> cases (stripSuffix? w sufOrLater).bind licenseLookup <;>
    cases lookup Tables.deprecated w <;> rfl

end Spdx
