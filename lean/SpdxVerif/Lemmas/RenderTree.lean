/-
Lemmas/RenderTree — writing a tree as text with the MINIMAL parentheses the documented grammar needs
(AND binds tighter than OR; chains nest to the right), and reading it back.
-/
import SpdxVerif.Lemmas.LeafOK
namespace Spdx

/-- the text of a tree at a grammar level: `.atom` = an operand of AND (compound trees in parentheses), `.andE` = an operand
    of OR (`atom {AND atom}`, an OR in parentheses), `.expr` = a whole expression (`and {OR and}`); chains nest to the right -/
def rend : Node → Lvl → Bytes
  | .and l r, lv =>
    let body := rend l .atom ++ (kwAnd ++ 32 :: rend r .andE)
    match lv with
    | .atom => 40 :: (body ++ [41])
    | _ => body
  | .or l r, lv =>
    let body := rend l .andE ++ (kwOr ++ 32 :: rend r .expr)
    match lv with
    | .expr => body
    | _ => 40 :: (body ++ [41])
  | n, _ => render n

def rExpr (n : Node) : Bytes := rend n .expr

def AllLeavesOK (n : Node) : Prop := ∀ l ∈ leaves n, LeafOK l

theorem rend_D : ∀ (n : Node) (lv : Lvl), AllLeavesOK n → ∃ ts, toks (rend n lv) = some ts ∧ D lv ts n := by
  intro n
  induction n with
  | lic | ref =>
    intro lv h
    have ok := h _ (List.mem_singleton_self _)
    exact ⟨_, toks_render _ ok, D_lift (leaf_atom _ rfl ok) lv⟩
  | and l r ihl ihr =>
    intro lv h
    obtain ⟨hl, hr⟩ := List.forall_mem_append.mp h
    obtain ⟨ta, ha, da⟩ := ihl .atom hl
    obtain ⟨tb, hb, db⟩ := ihr .andE hr
    have body : toks (rend l .atom ++ (kwAnd ++ 32 :: rend r .andE)) = some (ta ++ .op .and_ :: tb) := by
      rw [toks_binop kwAnd .and_ toks_kwAnd rfl _ _ (head_ne_plus_of_D hb db), ha, hb]; rfl
    cases lv with
    | atom => exact paren_D body (.or1 (.andC da db)) .atom
    | andE => exact ⟨_, body, .andC da db⟩
    | expr => exact ⟨_, body, .or1 (.andC da db)⟩
  | or l r ihl ihr =>
    intro lv h
    obtain ⟨hl, hr⟩ := List.forall_mem_append.mp h
    obtain ⟨ta, ha, da⟩ := ihl .andE hl
    obtain ⟨tb, hb, db⟩ := ihr .expr hr
    have body : toks (rend l .andE ++ (kwOr ++ 32 :: rend r .expr)) = some (ta ++ .op .or_ :: tb) := by
      rw [toks_binop kwOr .or_ toks_kwOr rfl _ _ (head_ne_plus_of_D hb db), ha, hb]; rfl
    cases lv with
    | atom => exact paren_D body (.orC da db) .atom
    | andE => exact paren_D body (.orC da db) .andE
    | expr => exact ⟨_, body, .orC da db⟩

end Spdx
