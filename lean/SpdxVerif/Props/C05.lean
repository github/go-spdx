/-
C05 — the accepted language is exactly the documented SPDX expression grammar.
-/
import SpdxVerif.Lemmas.Grammar
namespace Spdx.C05

/-- **C05 (token level).** The recursive-descent parser (`parseTokens`, `parseExpression`, `parseAnd`,
`parseAtom`, `parseLicenseRef`, `parseLicense`, `parseWith`, trailing-token check) accepts a token
sequence iff it derives from the documented grammar `D`, and then returns exactly the tree the
derivation denotes (AND binds tighter than OR, parentheses group, chains nest to the right). -/
theorem parseTokens_iff (ts : List Tok) (n : Node) : parseTokens ts = some n ↔ D .expr ts n :=
  Spdx.parseTokens_iff ts n

/-- acceptance, without the tree -/
theorem accepts_iff (ts : List Tok) : (parseTokens ts).isSome = true ↔ ∃ n, D .expr ts n := by
  simp only [Option.isSome_iff_exists, parseTokens_iff]

/-- the tree is unique: the grammar, as read by the parser, is unambiguous -/
theorem D_unique {ts : List Tok} {n₁ n₂ : Node} (h₁ : D .expr ts n₁) (h₂ : D .expr ts n₂) : n₁ = n₂ :=
  Option.some.inj (((parseTokens_iff ts n₁).mpr h₁).symm.trans ((parseTokens_iff ts n₂).mpr h₂))

/-! ### non-vacuity and the precedence / grouping reading -/
section
private def a : Bytes := [77,73,84]
private def b : Bytes := [73,83,67]
private def c : Bytes := [90,108,105,98]
-- a OR b AND c  =  a OR (b AND c)
example : parseTokens [.lic a, .op .or_, .lic b, .op .and_, .lic c] =
    some (.or (.lic a false none) (.and (.lic b false none) (.lic c false none))) := by decide +kernel
-- a AND b OR c  =  (a AND b) OR c
example : parseTokens [.lic a, .op .and_, .lic b, .op .or_, .lic c] =
    some (.or (.and (.lic a false none) (.lic b false none)) (.lic c false none)) := by decide +kernel
-- (a OR b) AND c
example : parseTokens [.op .lparen, .lic a, .op .or_, .lic b, .op .rparen, .op .and_, .lic c] =
    some (.and (.or (.lic a false none) (.lic b false none)) (.lic c false none)) := by decide +kernel
-- rejected: dangling operator, doubled operator, adjacent terms, empty parentheses, WITH without exception,
-- exception without WITH, '+' on a LicenseRef, DocumentRef without ':LicenseRef-'
example : parseTokens [.lic a, .op .and_] = none := by decide +kernel
example : parseTokens [.lic a, .op .and_, .op .or_, .lic b] = none := by decide +kernel
example : parseTokens [.lic a, .lic b] = none := by decide +kernel
example : parseTokens [.op .lparen, .op .rparen] = none := by decide +kernel
example : parseTokens [.op .lparen, .lic a] = none := by decide +kernel
example : parseTokens [.lic a, .op .rparen] = none := by decide +kernel
example : parseTokens [.lic a, .op .with_] = none := by decide +kernel
example : parseTokens [.lic a, .op .with_, .lic b] = none := by decide +kernel
example : parseTokens [.lic a, .exc b] = none := by decide +kernel
example : parseTokens [.exc b] = none := by decide +kernel
example : parseTokens [.licRef a, .op .plus] = none := by decide +kernel
example : parseTokens [.licRef a, .op .with_, .exc b] = none := by decide +kernel
example : parseTokens [.docRef a] = none := by decide +kernel
example : parseTokens [.docRef a, .op .colon] = none := by decide +kernel
example : parseTokens [.docRef a, .op .colon, .lic b] = none := by decide +kernel
end

end Spdx.C05
