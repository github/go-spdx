/-
Lemmas/ScanAppend — the scanner is compositional: if `b` is empty or begins with a byte that is neither an id byte nor `+`
(in particular a space or a parenthesis: `isBoundary`), scanning `a ++ b` is scanning `a` and then `b`.  (Behind its first
byte every operator, and every reference prefix, consists of id bytes, so none reaches into `b`; maximal munch stops at `b`;
the `+` look-ahead sees no `+`.)  Leading spaces are skipped unless a `+` follows them.
-/
import SpdxVerif.Lemmas.Scan
namespace Spdx

/-- `b` is empty or begins with a space, `(` or `)` -/
def isBoundary : Bytes → Bool
  | [] => true
  | c :: _ => c == 32 || c == 40 || c == 41

def inner (c : Nat) : Bool := !(c == 32 || c == 40 || c == 41)

theorem isIdChar_inner {c : Nat} (h : isIdChar c = true) : inner c = true := by
  unfold isIdChar at h; unfold inner
  simp only [Bool.or_eq_true, Bool.and_eq_true, decide_eq_true_eq, beq_iff_eq] at h
  simp only [Bool.not_eq_true', Bool.or_eq_false_iff, beq_eq_false_iff_ne, ne_eq]
  omega

theorem isBoundary_safe {b : Bytes} (hb : isBoundary b = true) : Stops b ∧ b.head? ≠ some 43 := by
  cases b with
  | nil => exact ⟨stops_nil, nofun⟩
  | cons x r =>
    simp only [isBoundary, Bool.or_eq_true, beq_iff_eq] at hb
    rcases hb with (rfl | rfl) | rfl <;> exact ⟨stops_cons (by decide), by simp⟩

theorem run_append (p : Nat → Bool) (a b : Bytes) (h : a.dropWhile p ≠ [] ∨ ∀ c, b.head? = some c → p c = false) :
    (a ++ b).takeWhile p = a.takeWhile p ∧ (a ++ b).dropWhile p = a.dropWhile p ++ b := by
  have hr : ∀ c, (a.dropWhile p ++ b).head? = some c → p c = false := by
    cases hd : a.dropWhile p with
    | nil => exact h.elim (fun h => absurd hd h) id
    | cons x r => intro c hc; exact run_stops p a c (by rw [hd]; exact hc)
  have := run_eq p (a.takeWhile p) _ List.all_takeWhile hr
  rwa [← List.append_assoc, List.takeWhile_append_dropWhile] at this

theorem all_of_dropWhile_nil {p : Nat → Bool} {a : Bytes} (h : a.dropWhile p = []) : ∀ x ∈ a, p x = true := by
  have := List.all_eq_true.mp (List.all_takeWhile (p := p) (l := a))
  rwa [← List.takeWhile_append_dropWhile (p := p) (l := a), h, List.append_nil]

theorem isBoundary_of_spaces {sp : Bytes} (h : sp.dropWhile isSp = []) : isBoundary sp = true := by
  cases sp with
  | nil => rfl
  | cons c r => have hc := all_of_dropWhile_nil h c List.mem_cons_self; rw [isSp, beq_iff_eq] at hc; subst hc; rfl

theorem isBoundary_spaces_append {sp b : Bytes} (h : sp.dropWhile isSp = []) (hb : isBoundary b = true) :
    isBoundary (sp ++ b) = true := by
  cases sp with
  | nil => exact hb
  | cons c r => exact isBoundary_of_spaces (sp := c :: r) h

theorem isPrefixOf_append_stop (p s b : Bytes) (hp : ∀ c ∈ p, isIdChar c = true) (hb : Stops b) :
    p.isPrefixOf (s ++ b) = p.isPrefixOf s := by
  induction p generalizing s with
  | nil => simp
  | cons x p ih =>
    cases s with
    | nil =>
      cases b with
      | nil => simp
      | cons c r =>
        have : x ≠ c := fun h => by have hx := hp x List.mem_cons_self; rw [h, hb c rfl] at hx; cases hx
        simp [List.isPrefixOf_cons_cons, this]
    | cons y s =>
      simp only [List.cons_append, List.isPrefixOf_cons_cons]
      rw [ih s (fun c hc => hp c (List.mem_cons_of_mem _ hc))]

theorem readOp_append (y : Nat) (s b : Bytes) (hb : Stops b) :
    readOp (y :: s ++ b) = (readOp (y :: s)).map (fun p => (p.1, p.2 ++ b)) := by
  unfold readOp
  -- behind its first byte every operator consists of id bytes: it cannot reach into `b`
  have hpred : ∀ p ∈ opTable, p.1.isPrefixOf (y :: s ++ b) = p.1.isPrefixOf (y :: s) := by
    intro p hp
    simp only [opTable, List.mem_cons, List.not_mem_nil, or_false] at hp
    rcases hp with rfl | rfl | rfl | rfl | rfl | rfl | rfl <;>
      (simp only [List.cons_append, List.isPrefixOf_cons_cons]; rw [isPrefixOf_append_stop _ s b (by decide) hb])
  -- `find?` is the head of `filter`, and `filter` has a congruence over the members of the list
  rw [← List.head?_filter, List.filter_congr hpred, List.head?_filter]
  cases hf : opTable.find? (fun p => p.1.isPrefixOf (y :: s)) with
  | none => rfl
  | some p =>
    have hpre := List.find?_some hf
    simp only [Option.map_some]
    rw [List.drop_append_of_le_length (List.isPrefixOf_iff_prefix.mp hpre).length_le]

def Step.appendRest : Step → Bytes → Step
  | .tok ts r, b => .tok ts (r ++ b)
  | .err e, _ => .err e
  | .done, _ => .done

theorem readRef_append {pre : Bytes} {mk : Bytes → Tok} {s1 b : Bytes} {off1 : Nat} (hp : pre.isPrefixOf s1 = true)
    (hb : Stops b) :
    readRef pre mk (s1 ++ b) off1 = (readRef pre mk s1 off1).appendRest b := by
  obtain ⟨t, rfl⟩ := List.isPrefixOf_iff_prefix.mp hp
  unfold readRef
  rw [List.append_assoc, List.drop_left, List.drop_left, (run_append isIdChar t b (.inr hb)).1, (run_append isIdChar t b (.inr hb)).2]
  split <;> rfl

theorem readWord_append (s1 b : Bytes) (off1 : Nat) (hstop : Stops b) (hp : b.head? ≠ some 43) :
    readWord (s1 ++ b) off1 = (readWord s1 off1).appendRest b := by
  have hhead : ∀ rest : Bytes, ((rest ++ b).head? == some 43) = (rest.head? == some 43) := by
    intro rest; cases rest with
    | cons c r => rfl
    | nil => simpa using hp
  unfold readWord
  rw [(run_append isIdChar s1 b (.inr hstop)).1, (run_append isIdChar s1 b (.inr hstop)).2, hhead]
  split
  · rfl
  · cases hn : normCore (s1.takeWhile isIdChar) ((s1.dropWhile isIdChar).head? == some 43) with
    | none => rfl
    | some p =>
      obtain ⟨ts, k⟩ := p
      cases k with
      | false => rfl
      | true =>
        -- the `+` that is swallowed stands in `s1`
        have := normCore_flag hn rfl
        cases hd : s1.dropWhile isIdChar with
        | nil => simp [hd] at this
        | cons c r => rfl

theorem lexeme_append (y : Nat) (s b : Bytes) (off1 : Nat) (afterSp : Bool) (hb : Stops b) (hp : b.head? ≠ some 43) :
    lexeme (y :: s ++ b) off1 afterSp = (lexeme (y :: s) off1 afterSp).appendRest b := by
  rw [lexeme_eq, lexeme_eq, readOp_append y s b hb, isPrefixOf_append_stop docRefPrefix _ b (by decide) hb,
    isPrefixOf_append_stop licRefPrefix _ b (by decide) hb]
  cases readOp (y :: s) with
  | some p => simp only [Option.map_some]; split <;> rfl
  | none =>
    simp only [Option.map_none]
    split
    · exact readRef_append ‹_› hb
    · split
      · exact readRef_append ‹_› hb
      · exact readWord_append _ _ _ hb hp

theorem step_append (s b : Bytes) (off : Nat) (hb : Stops b) (hp : b.head? ≠ some 43) (hne : s.dropWhile isSp ≠ []) :
    step (s ++ b) off = (step s off).appendRest b := by
  rw [step_eq, step_eq, (run_append isSp s b (.inl hne)).1, (run_append isSp s b (.inl hne)).2, if_neg hne,
    if_neg (by simp [hne])]
  cases hs : s.dropWhile isSp with
  | nil => exact absurd hs hne
  | cons y t => exact lexeme_append y t b _ _ hb hp

theorem readOp_plus_head {s1 r : Bytes} (h : readOp s1 = some (.plus, r)) : s1.head? = some 43 := by
  obtain ⟨kw, hm, rfl⟩ := readOp_inv h
  obtain rfl : kw = bPlus := by simpa using (opTable_mem hm).2.2
  rfl

theorem lexeme_flag (s1 : Bytes) (o : Nat) (f f' : Bool) (h : s1.head? ≠ some 43) : lexeme s1 o f = lexeme s1 o f' := by
  unfold lexeme
  cases hr : readOp s1 with
  | none => rfl
  | some p =>
    obtain ⟨op, r⟩ := p
    have : op ≠ .plus := by
      intro hop; subst hop; exact h (readOp_plus_head hr)
    simp [this]

theorem step_leading_spaces (sp s : Bytes) (off : Nat) (hsp : sp.dropWhile isSp = []) (hs : s.head? ≠ some 43) :
    step (sp ++ s) off = step s (off + sp.length) := by
  have hall := all_of_dropWhile_nil hsp
  rw [step_eq, step_eq, List.takeWhile_append_of_pos hall, List.dropWhile_append_of_pos hall, List.length_append, Nat.add_assoc]
  split
  · rfl
  · cases htw : s.takeWhile isSp with
    | nil =>
      -- `s` begins with its lexeme, which is not `+`: it does not matter whether `sp` is empty
      rw [dropWhile_of_takeWhile_nil htw]; exact lexeme_flag s _ _ _ hs
    | cons c t => simp

theorem scanFrom_append (a b : Bytes) (hb : Stops b) (hp : b.head? ≠ some 43) : ∀ (off : Nat),
    scanFrom (a ++ b) off = (match scanFrom a off with
      | .error e => .error e
      | .ok ta => (scanFrom b (off + a.length)).map (ta ++ ·)) := by
  induction a using scan_induction with
  | _ a ih =>
    intro off
    rw [scanFrom_unfold (a ++ b), scanFrom_unfold a]
    by_cases hsp : a.dropWhile isSp = []
    · -- `a` is only spaces: the first iteration on `a ++ b` is the first iteration on `b`
      rw [step_leading_spaces a b off hsp hp, step_eq a, if_pos hsp, List.length_append, ← Nat.add_assoc, ← scanFrom_unfold]
      cases scanFrom b _ <;> rfl
    · -- `a` still holds a lexeme: both loops read it, and go on behind it
      rw [step_append a b off hb hp hsp]
      cases hs : step a off with
      | done => rw [step_eq, if_neg hsp] at hs; exact absurd hs (lexeme_ne_done _ _ _)
      | err e => rfl
      | tok ts r =>
        have hr : r.length ≤ off + a.length := Nat.le_trans (Nat.le_of_lt (step_length_lt hs)) (Nat.le_add_left _ _)
        simp only [Step.appendRest, List.length_append]
        rw [← Nat.add_assoc, Nat.add_sub_add_right, ih off ts r hs, Nat.sub_add_cancel hr]
        cases scanFrom r _ with
        | error e => rfl
        | ok tr => cases scanFrom b _ <;> simp [Except.map]

theorem scan_append (a b : Bytes) (hb : isBoundary b = true) :
    scan (a ++ b) = (match scan a with
      | .error e => .error e
      | .ok ta => (scanFrom b a.length).map (ta ++ ·)) := by
  simpa [scan_eq_scanFrom] using scanFrom_append a b (isBoundary_safe hb).1 (isBoundary_safe hb).2 0

theorem toks_append (a b : Bytes) (hb : isBoundary b = true) :
    toks (a ++ b) = (toks a).bind (fun ta => (toks b).map (ta ++ ·)) := by
  rw [← toks_off (a ++ b) 0, scanFrom_append a b (isBoundary_safe hb).1 (isBoundary_safe hb).2 0, ← toks_off a 0,
    ← toks_off b (0 + a.length)]
  cases scanFrom a 0 with
  | error e => rfl
  | ok ta => exact toOption_map _ _

/-- `hs`: the scanner refuses a `+` only behind spaces (such a text is invalid either way) -/
theorem toks_leading_spaces (sp s : Bytes) (hsp : sp.dropWhile isSp = []) (hs : s.head? ≠ some 43) :
    toks (sp ++ s) = toks s := by
  rw [toks_unfold (sp ++ s) 0, step_leading_spaces sp s 0 hsp hs, ← toks_unfold]

end Spdx
