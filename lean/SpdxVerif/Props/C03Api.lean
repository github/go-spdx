/-
Props/C03Api — C03 / C01: the Go-shaped `Satisfies`, end to end, returns normally on every pair of arguments and
returns what the main model's `satisfies` returns — for every growth policy of `append`.
-/
import SpdxVerif.Model.GoApi
import SpdxVerif.Props.C01Heap
import SpdxVerif.Props.C03Match
namespace Spdx.C03
open Spdx.G

theorem g_stringsToNodes_refines (L : List Bytes) : stringsToNodesG L = .ok (toNodes L) := by
  induction L with
  | nil => rfl
  | cons s ss ih =>
    simp only [stringsToNodesG, toNodes, g_parse_refines s, bind_ok]
    cases parse s with
    | error e => rfl
    | ok n =>
      simp only []
      split
      · rw [ih]; simp only [bind_ok]
      · rfl

theorem g_expand_refines (grow : Nat → Nat → Nat) (n : Node) : expandG grow n = .ok (expand n) := by
  unfold expandG
  cases hn : n.isLeaf
  · obtain ⟨b, h2⟩ := deepSortGuardG_ok (expandTerm n)
    rw [if_neg Bool.false_ne_true, C01.heap_expand_refines, mapM'_keysG_ok (flatten_expandTerm_leaves n), bind_ok, h2,
      bind_ok, C01.heap_expand_eq_expand grow n hn]
  · simp [hn, expand]

/-- **`Satisfies`, Go-shaped end to end, equals the model's `satisfies`** — on every expression, every allowed list and
    every growth policy of `append`: no index, slice, write or dereference on the way panics, aliasing never changes an
    alternative, and the verdict is the one all the C01–C10 theorems are about -/
theorem g_satisfies_refines (grow : Nat → Nat → Nat) (e : Bytes) (L : List Bytes) :
    satisfiesG grow e L = .ok (satisfies e L) := by
  unfold satisfiesG satisfies
  rw [g_parse_refines e]; simp only [bind_ok]
  cases parse e with
  | error x => rfl
  | ok n =>
    simp only []
    split
    · rfl
    · rw [g_stringsToNodes_refines]; simp only [bind_ok]
      cases hA : toNodes L with
      | error x => rfl
      | ok A =>
        simp only []
        obtain ⟨out, hf, _⟩ := fillG_ok A.length (List.replicate A.length none) A 0 (by simp)
        obtain ⟨front, hs⟩ := g_sortAndDedup_refines L A hA
        rw [hf, hs, g_expand_refines]; simp only [bind_ok]
        rw [anyG_ok _ _ (fun part => g_isCompatible_refines part (sortAndDedupArray A))]
        rfl

theorem g_satisfies_never_panics (grow : Nat → Nat → Nat) (e : Bytes) (L : List Bytes) : satisfiesG grow e L ≠ .panic :=
  Out.IsOk.ne_panic ⟨_, g_satisfies_refines grow e L⟩

/-- `ExtractLicenses`, Go-shaped end to end (heap-level expansion included), equals the model's `extract` -/
theorem g_extract_refines (grow : Nat → Nat → Nat) (e : Bytes) : extractFullG grow e = .ok (extract e) := by
  unfold extractFullG extract
  rw [g_parse_refines e]; simp only [bind_ok]
  cases parse e with
  | error x => rfl
  | ok n =>
    simp only [g_expand_refines, bind_ok]
    rw [← keysG, keysG_flatten_expand]
    rfl

theorem g_invalid_refines (ls : List Bytes) : invalidG ls = .ok (ls.filter (fun s => !valid s)) := by
  induction ls with
  | nil => rfl
  | cons s ss ih =>
    simp only [invalidG, g_parse_refines s, ih, bind_ok, List.filter_cons, valid]
    cases parse s <;> rfl

/-- `ValidateLicenses`, Go-shaped end to end, equals the model's `validate` -/
theorem g_validate_refines (ls : List Bytes) : validateG ls = .ok (validate ls) := by
  unfold validateG validate
  rw [g_invalid_refines]; rfl

/-- **C03 on layer G, all three entry points**: none of them panics, on any argument -/
theorem g_api_never_panics (grow : Nat → Nat → Nat) (e : Bytes) (L : List Bytes) :
    satisfiesG grow e L ≠ .panic ∧ extractFullG grow e ≠ .panic ∧ validateG L ≠ .panic :=
  ⟨g_satisfies_never_panics grow e L, Out.IsOk.ne_panic ⟨_, g_extract_refines grow e⟩,
   Out.IsOk.ne_panic ⟨_, g_validate_refines L⟩⟩

/-! ### non-vacuity: the composition computes (kernel-evaluated, Go's doubling policy)

The shape of defect D4 — a left-nested AND group of three terms (capacity 4, one spare slot) times two alternatives — with
the allowed list covering the FIRST alternative, a re-cased entry, and the same list without the covering entry. -/
private def d4shape : Bytes := str "((MIT AND ISC) AND Zlib) AND (0BSD OR W3C)"

private def d4tree : Node :=
  let t (s : String) : Node := .lic (str s) false none
  .and (.and (.and (t "MIT") (t "ISC")) (t "Zlib")) (.or (t "0BSD") (t "W3C"))

/-- scanned and parsed once for the four examples: the table lookups are the larger half of each evaluation -/
private theorem d4parse : parseG d4shape = .ok (some d4tree) := by
  -- `Out` has no `DecidableEq`: the kernel compares the node inside, and the equation is read back off the `match`
  have h : (match parseG d4shape with | .ok (some n) => decide (n = d4tree) | _ => false) = true := by decide +kernel
  generalize parseG d4shape = x at h
  match x, h with
  | .ok (some n), h => rw [of_decide_eq_true h]

example : (match satisfiesG H.growDouble d4shape [str "MIT", str "isc", str "Zlib", str "0BSD"] with
    | .ok (.ok true) => true | _ => false) = true := by rw [satisfiesG, d4parse]; decide +kernel
example : (match satisfiesG H.growDouble d4shape [str "MIT", str "isc", str "Zlib"] with
    | .ok (.ok false) => true | _ => false) = true := by rw [satisfiesG, d4parse]; decide +kernel
example : (match satisfiesG H.growDouble d4shape [str "MIT", str "MIT AND ISC"] with
    | .ok (.error .compoundEntry) => true | _ => false) = true := by rw [satisfiesG, d4parse]; decide +kernel
example : (match extractFullG H.growDouble d4shape with
    | .ok (some l) => l.length == 5 | _ => false) = true := by rw [extractFullG, d4parse]; decide +kernel

end Spdx.C03
