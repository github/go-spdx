/-
Lemmas/Grammar — the recursive-descent parser accepts exactly the documented grammar (C05, token level).

One level of the list parser at a time: `parseAnd` and `parseExpression` are the same code (`chainL`) over different
operands, operator and node constructor.
-/
import SpdxVerif.Spec.Grammar
namespace Spdx

theorem D_lift {ts : List Tok} {n : Node} (h : D .atom ts n) (lv : Lvl) : D lv ts n := by
  cases lv with
  | atom => exact h
  | andE => exact .and1 h
  | expr => exact .or1 (.and1 h)

def Tok.opens : Tok → Bool
  | .op .lparen | .docRef _ | .licRef _ | .lic _ => true
  | _ => false

theorem D_head {lv : Lvl} {ts : List Tok} {n : Node} (h : D lv ts n) : ∃ t rest, ts = t :: rest ∧ t.opens = true := by
  induction h with
  | ref0 | ref1 | lic | licP | licW | licPW | paren => exact ⟨_, _, rfl, rfl⟩
  | and1 _ ih | or1 _ ih => exact ih
  | andC _ _ iha _ | orC _ _ iha _ => obtain ⟨t, rest, rfl, ht⟩ := iha; exact ⟨t, _, List.cons_append, ht⟩

theorem D_len_pos {lv ts n} (h : D lv ts n) : 0 < ts.length := by
  obtain ⟨t, rest, rfl, -⟩ := D_head h
  exact Nat.succ_pos _

def PR.orElse (x y : PR Node) : PR Node :=
  match x with
  | .err => .err
  | .ok n r => .ok n r
  | .none => y

/-- `parseAtom` on tokens that do not begin with `(` -/
def leafL (L : List Tok) : PR Node := (parseLicenseRef L).orElse ((parseLicense L).orElse .err)

/-- `parseAtom` after the expression inside the parentheses -/
def closeL : PR Node → PR Node
  | .ok e (.op .rparen :: r) => .ok e r
  | _ => .err

/-- `parseAnd` / `parseExpression` after their left operand -/
def chainL (o : Op) (mk : Node → Node → Node) (again : List Tok → PR Node) : PR Node → PR Node
  | .ok a (.op o' :: r) =>
    if o' = o then
      (match r with
       | [] => .err
       | _ => match again r with
         | .ok b r' => .ok (mk a b) r'
         | _ => .err)
    else .ok a (.op o' :: r)
  | x => x

theorem parseAtom_paren (f : Nat) (rest : List Tok) :
    parseAt .atom (f + 1) (.op .lparen :: rest) = closeL (parseAt .expr f rest) := rfl

theorem parseAtom_leaf (f : Nat) (L : List Tok) (h : L.head? ≠ some (.op .lparen)) : parseAt .atom (f + 1) L = leafL L := by
  show parseAtom (f + 1) L = _
  unfold parseAtom
  split
  · simp at h
  · rfl

theorem parseAnd_succ (f : Nat) (ts : List Tok) :
    parseAt .andE (f + 1) ts = chainL .and_ .and (parseAt .andE f) (parseAt .atom f ts) := by
  simp only [parseAt]
  rw [parseAnd]
  -- split on the left operand's result and on the token behind it, far enough for both matches to reduce
  rcases parseAtom f ts with _ | _ | ⟨a, _ | ⟨(_ | _ | _ | _ | _ | _ | _) | _ | _ | _ | _, r⟩⟩ <;> rfl

theorem parseExpression_succ (f : Nat) (ts : List Tok) :
    parseAt .expr (f + 1) ts = chainL .or_ .or (parseAt .expr f) (parseAt .andE f ts) := by
  simp only [parseAt]
  rw [parseExpression]
  rcases parseAnd f ts with _ | _ | ⟨a, _ | ⟨(_ | _ | _ | _ | _ | _ | _) | _ | _ | _ | _, r⟩⟩ <;> rfl

theorem chainL_stop {o mk again a rest} (h : rest.head? ≠ some (.op o)) : chainL o mk again (.ok a rest) = .ok a rest := by
  unfold chainL
  split
  · rename_i heq; cases heq; rw [if_neg (by rintro rfl; exact h rfl)]
  · rfl

theorem chainL_go {o mk again a b r rest} (hr : r ≠ []) (h : again r = .ok b rest) :
    chainL o mk again (.ok a (.op o :: r)) = .ok (mk a b) rest := by
  cases r with
  | nil => exact absurd rfl hr
  | cons x xs => simp only [chainL, if_true, h]

theorem chainL_ok {o mk again pr n rest} (h : chainL o mk again pr = .ok n rest) :
    pr = .ok n rest ∨ ∃ a r b, pr = .ok a (.op o :: r) ∧ again r = .ok b rest ∧ n = mk a b := by
  unfold chainL at h
  split at h
  · split at h
    · rename_i a o' r ho; subst ho
      split at h
      · cases h
      · split at h
        · rename_i b r' hb; cases h; exact .inr ⟨a, r, b, rfl, hb, rfl⟩
        · cases h
    · exact .inl h
  · exact .inl h

theorem closeL_ok {pr n rest} (h : closeL pr = .ok n rest) : pr = .ok n (.op .rparen :: rest) := by
  unfold closeL at h
  split at h
  · cases h; rfl
  · cases h

theorem closeL_err {e rest} (h : rest.head? ≠ some (.op .rparen)) : closeL (.ok e rest) = .err := by
  unfold closeL
  split
  · rename_i heq; cases heq; exact absurd rfl h
  · rfl

theorem orElse_ok {x y : PR Node} {n rest} (h : x.orElse y = .ok n rest) : x = .ok n rest ∨ x = .none ∧ y = .ok n rest := by
  cases x with
  | err => cases h
  | ok => exact .inl h
  | none => exact .inr ⟨rfl, h⟩

theorem leaf_complete {pre n} (h : D .atom pre n) (hp : pre.head? ≠ some (.op .lparen)) {rest} (ho : headOk .atom rest)
    {f} (hf : need .atom pre.length ≤ f) : parseAt .atom f (pre ++ rest) = .ok n rest := by
  obtain ⟨f, rfl⟩ : ∃ g, f = g + 1 := ⟨f - 1, by have := D_len_pos h; simp [need] at hf; omega⟩
  obtain ⟨h1, h2, -, -⟩ := ho
  cases h with
  | paren => simp at hp
  -- behind a ref or an exception the parser does not look ahead; behind `id` and `id +` it does, for the `+` / `WITH` that `ho` excludes
  | ref0 | ref1 | licW | licPW => rfl
  | lic | licP =>
    rw [parseAtom_leaf _ _ (by simp)]
    cases rest with
    | nil => rfl
    | cons t rest =>
      simp only [List.head?_cons, ne_eq, Option.some.injEq] at h1 h2
      simp [leafL, parseLicenseRef, parseLicense, PR.orElse, h1, h2]

theorem complete {lv pre n} (h : D lv pre n) :
    ∀ rest, headOk lv rest → ∀ f, need lv pre.length ≤ f → parseAt lv f (pre ++ rest) = .ok n rest := by
  induction h with
  | @paren ts n hd ih =>
    intro rest _ f hf
    obtain ⟨f, rfl, h1⟩ : ∃ g, f = g + 1 ∧ need .expr ts.length ≤ g := ⟨f - 1, by simp [need] at hf ⊢; omega⟩
    rw [List.cons_append, List.cons_append, parseAtom_paren, List.append_assoc, ih ([Tok.op .rparen] ++ rest) (by simp [headOk]) f h1]
    rfl
  | @and1 ts n hd ih =>
    rintro rest ⟨hplus, hwith, hand, -⟩ f hf
    have := D_len_pos hd
    obtain ⟨f, rfl, h1⟩ : ∃ g, f = g + 1 ∧ need .atom ts.length ≤ g := ⟨f - 1, by simp [need] at hf ⊢; omega⟩
    rw [parseAnd_succ, ih rest ⟨hplus, hwith, nofun, nofun⟩ f h1, chainL_stop (hand nofun)]
  | @andC a b l r ha hb iha ihb =>
    intro rest ho f hf
    have := D_len_pos ha
    have hb0 := D_len_pos hb
    obtain ⟨f, rfl, h1, h2⟩ : ∃ g, f = g + 1 ∧ need .atom a.length ≤ g ∧ need .andE b.length ≤ g :=
      ⟨f - 1, by simp [need] at hf ⊢; omega⟩
    rw [parseAnd_succ, List.append_assoc, List.cons_append, iha (.op .and_ :: (b ++ rest)) (by simp [headOk]) f h1,
      chainL_go (by cases b <;> simp at hb0 ⊢) (ihb rest ho f h2)]
  | @or1 ts n hd ih =>
    rintro rest ⟨hplus, hwith, hand, hor⟩ f hf
    have := D_len_pos hd
    obtain ⟨f, rfl, h1⟩ : ∃ g, f = g + 1 ∧ need .andE ts.length ≤ g := ⟨f - 1, by simp [need] at hf ⊢; omega⟩
    rw [parseExpression_succ, ih rest ⟨hplus, hwith, fun _ => hand nofun, nofun⟩ f h1, chainL_stop (hor rfl)]
  | @orC a b l r ha hb iha ihb =>
    intro rest ho f hf
    have := D_len_pos ha
    have hb0 := D_len_pos hb
    obtain ⟨f, rfl, h1, h2⟩ : ∃ g, f = g + 1 ∧ need .andE a.length ≤ g ∧ need .expr b.length ≤ g :=
      ⟨f - 1, by simp [need] at hf ⊢; omega⟩
    rw [parseExpression_succ, List.append_assoc, List.cons_append, iha (.op .or_ :: (b ++ rest)) (by simp [headOk]) f h1,
      chainL_go (by cases b <;> simp at hb0 ⊢) (ihb rest ho f h2)]
  | _ => exact fun rest ho f hf => leaf_complete (by constructor) (by simp) ho hf

theorem parseLicenseRef_sound {ts n rest} (h : parseLicenseRef ts = .ok n rest) :
    ∃ pre, ts = pre ++ rest ∧ D .atom pre n := by
  unfold parseLicenseRef at h
  split at h <;> simp at h
  · obtain ⟨rfl, rfl⟩ := h; exact ⟨_, rfl, .ref1 _ _⟩
  · obtain ⟨rfl, rfl⟩ := h; exact ⟨[_], rfl, .ref0 _⟩

theorem parseLicense_sound {ts n rest} (h : parseLicense ts = .ok n rest) :
    ∃ pre, ts = pre ++ rest ∧ D .atom pre n := by
  unfold parseLicense at h
  split at h <;> simp at h
  · obtain ⟨rfl, rfl⟩ := h; exact ⟨[_, _, _, _], rfl, .licPW _ _⟩
  · obtain ⟨rfl, rfl⟩ := h; exact ⟨[_, _], rfl, .licP _⟩
  · obtain ⟨rfl, rfl⟩ := h; exact ⟨[_, _, _], rfl, .licW _ _⟩
  · obtain ⟨rfl, rfl⟩ := h; exact ⟨[_], rfl, .lic _⟩

theorem leafL_sound {ts n rest} (h : leafL ts = .ok n rest) : ∃ pre, ts = pre ++ rest ∧ D .atom pre n := by
  rcases orElse_ok h with h | ⟨-, h⟩
  · exact parseLicenseRef_sound h
  · rcases orElse_ok h with h | ⟨-, h⟩
    · exact parseLicense_sound h
    · cases h

theorem chainL_sound {o mk again pr n rest} {lv lv' : Lvl} {ts : List Tok} (h : chainL o mk again pr = .ok n rest)
    (hsub : ∀ {a r}, pr = .ok a r → ∃ pre, ts = pre ++ r ∧ D lv' pre a)
    (hag : ∀ {r b}, again r = .ok b rest → ∃ pre, r = pre ++ rest ∧ D lv pre b)
    (one : ∀ {p a}, D lv' p a → D lv p a)
    (more : ∀ {p q a b}, D lv' p a → D lv q b → D lv (p ++ .op o :: q) (mk a b)) :
    ∃ pre, ts = pre ++ rest ∧ D lv pre n := by
  rcases chainL_ok h with h | ⟨a, r, b, hp, hb, rfl⟩
  · obtain ⟨pre, e, d⟩ := hsub h; exact ⟨pre, e, one d⟩
  · obtain ⟨pa, rfl, da⟩ := hsub hp
    obtain ⟨pb, rfl, db⟩ := hag hb
    exact ⟨pa ++ .op o :: pb, by simp, more da db⟩

theorem sound : ∀ f lv ts n rest, parseAt lv f ts = .ok n rest → ∃ pre, ts = pre ++ rest ∧ D lv pre n := by
  intro f
  induction f with
  | zero => intro lv ts n rest h; cases lv <;> cases h
  | succ f ih =>
    intro lv ts n rest h
    cases lv with
    | atom =>
      by_cases hp : ts.head? = some (.op .lparen)
      · obtain ⟨r0, rfl⟩ := List.head?_eq_some_iff.mp hp
        obtain ⟨pre, rfl, d⟩ := ih .expr _ _ _ (closeL_ok h)
        exact ⟨.op .lparen :: pre ++ [.op .rparen], by simp, .paren d⟩
      · rw [parseAtom_leaf _ _ hp] at h; exact leafL_sound h
    | andE =>
      rw [parseAnd_succ] at h
      exact chainL_sound h (ih .atom _ _ _) (ih .andE _ _ _) .and1 .andC
    | expr =>
      rw [parseExpression_succ] at h
      exact chainL_sound h (ih .andE _ _ _) (ih .expr _ _ _) .or1 .orC

theorem parseAt_rest_le {lv f ts n r} (h : parseAt lv f ts = .ok n r) : r.length ≤ ts.length := by
  obtain ⟨pre, rfl, _⟩ := sound f lv ts n r h
  simp

theorem parseTokens_iff (ts : List Tok) (n : Node) : parseTokens ts = some n ↔ D .expr ts n := by
  constructor
  · intro h
    unfold parseTokens at h
    split at h
    · cases h
    · split at h
      · rename_i heq; cases h
        obtain ⟨pre, hpre, hd⟩ := sound (3 * ts.length + 3) .expr ts _ [] heq
        rwa [hpre, List.append_nil]
      · cases h
  · intro h
    have := complete h [] (by simp [headOk]) (3 * ts.length + 3) (by simp [need])
    simp only [parseAt, List.append_nil] at this
    unfold parseTokens
    cases ts with
    | nil => cases D_len_pos h
    | cons t r => simp only [this]

end Spdx
