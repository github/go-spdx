/-
Lemmas/Interchange — `X+` and `X-or-later` (C08): whenever both are recognised they are read as the same token sequence,
wherever they stand (`toks_plus_orLater`).  The cascade could tell them apart only where `X-or-later` is listed and `X` is
itself read as a listed id (`X+` would give that id and the operator); the table obligation `orLater_bases_free` excludes
it.
-/
import SpdxVerif.Lemmas.LeafOK
namespace Spdx

def foldLookupNone (w : Bytes) : Bool :=
  (Tables.active.all (fun c => !foldEq c w)) && (Tables.exceptions.all (fun c => !foldEq c w))

/-- table obligation: for every active / exception id `B-or-later` (suffix in any letter case), `B` is, in any letter case,
    no active / exception id and carries no further suffix -/
def orLaterBasesFree : Bool :=
  (Tables.active ++ Tables.exceptions).all (fun c =>
    if C09.lowerEndsWith sufOrLater c then
      let b := c.take (c.length - sufOrLater.length)
      foldLookupNone b && !C09.lowerEndsWith sufOnly b && !C09.lowerEndsWith sufOrLater b
    else true)

theorem orLater_bases_free : orLaterBasesFree = true := by decide +kernel

theorem foldLookupNone_iff (w : Bytes) : foldLookupNone w = true ↔ licenseLookup w = none := by
  simp [foldLookupNone, licenseLookup_eq_none, lookup]

theorem orLater_listed_base (x : Bytes) (t : Tok) (h : licenseLookup (x ++ sufOrLater) = some t) :
    licenseLookup x = none ∧ C09.lowerEndsWith sufOnly x = false ∧ C09.lowerEndsWith sufOrLater x = false := by
  obtain ⟨c, hc, hl⟩ : ∃ c ∈ Tables.active ++ Tables.exceptions, lower c = lower (x ++ sufOrLater) := by
    rcases licenseLookup_inv h with ⟨c, -, hm, hl⟩ | ⟨c, -, hm, hl⟩
    · exact ⟨c, List.mem_append_left _ hm, hl⟩
    · exact ⟨c, List.mem_append_right _ hm, hl⟩
  obtain ⟨he, hb⟩ := lowerEndsWith_of_lower_eq sufOrLater c x hl
  have ho := List.all_eq_true.mp orLater_bases_free c hc
  -- the obligation speaks of `c` without its last nine bytes, which is `x` up to letter case (`hb`)
  simp only [he, ↓reduceIte, Bool.and_eq_true, Bool.not_eq_true', foldLookupNone_iff, C09.licenseLookup_fold _ _ hb,
    lowerEndsWith_congr hb] at ho
  exact ⟨ho.1.1, ho.1.2, ho.2⟩

theorem lookup_orLater_none_of (x : Bytes)
    (h : licenseLookup x ≠ none ∨ C09.lowerEndsWith sufOnly x = true) : licenseLookup (x ++ sufOrLater) = none := by
  cases hh : licenseLookup (x ++ sufOrLater) with
  | none => rfl
  | some t' =>
    obtain ⟨h1, h2, -⟩ := orLater_listed_base x t' hh
    rcases h with h | h
    · exact absurd h1 h
    · rw [h] at h2; cases h2

theorem orLater_not_only (x : Bytes) : stripSuffix? (x ++ sufOrLater) sufOnly = none :=
  stripSuffix_none_of_lower (Bool.eq_false_iff.mpr fun h => not_only_and_orLater h (lowerEndsWith_append x sufOrLater))

theorem orLater_not_deprecated (x : Bytes) : lookup Tables.deprecated (x ++ sufOrLater) = none :=
  lookup_none_iff.mpr fun c hc hl => by
    have := (deprecated_no_suffix hc hl.symm).2
    rw [stripSuffix_append] at this; cases this

theorem normCore_orLater_unlisted (x : Bytes) (hn : licenseLookup (x ++ sufOrLater) = none) :
    normCore (x ++ sufOrLater) false = (licenseLookup x).map (fun t => ([t, .op .plus], false)) := by
  unfold normCore
  simp only [hn, orLater_not_only, Option.bind_none, Bool.false_eq_true, ↓reduceIte, stripSuffix_append, Option.bind_some,
    orLater_not_deprecated]
  cases licenseLookup x <;> rfl

/-- the `+` either stays behind as the operator (`k1 = false`) or has been folded into a listed `X-or-later` -/
theorem normCore_plus_orLater (x : Bytes) (t1 t2 : List Tok) (k1 k2 : Bool)
    (h1 : normCore x true = some (t1, k1)) (h2 : normCore (x ++ sufOrLater) false = some (t2, k2)) :
    t2 = t1 ++ (if k1 then [] else [.op .plus]) ∧ k2 = false := by
  cases normCore_inv h1 with
  | self ht =>
    -- `X` is an active / exception id
    rw [normCore_orLater_unlisted x (lookup_orLater_none_of x (Or.inl (by rw [ht]; simp))), ht] at h2
    cases h2; exact ⟨rfl, rfl⟩
  | only hx hs ht =>
    -- `X = v-only`: then `X-or-later` is not recognised
    rw [normCore_orLater_unlisted x (lookup_orLater_none_of x (Or.inr (lowerEndsWith_of_strip hs))), hx] at h2; cases h2
  | @later t _ _ _ ht =>
    -- `X-or-later` is listed: both spellings give that one token
    rw [normCore_self ht] at h2
    cases h2; exact ⟨by simp, rfl⟩
  | plus hx _ hl _ _ | deprecated hx _ hl _ _ => rw [normCore_orLater_unlisted x (hl rfl), hx] at h2; cases h2

theorem toks_word_noPlus (w b : Bytes) (tk : List Tok) (hw : allId w = true) (hc : Clean w) (hb : Stops b)
    (hb43 : b.head? ≠ some 43) (hn : normCore w false = some (tk, false)) : toks (w ++ b) = (toks b).map (tk ++ ·) := by
  have hnp : (b.head? == some 43) = false := by simpa using hb43
  rw [toks_word w b tk false hw hc hb (hnp ▸ hn)]; rfl

/-- `b`: what follows the term (empty, a space, a parenthesis …) -/
theorem toks_plus_orLater (x b : Bytes) (hx : allId x = true) (hc : Clean x) (hc' : Clean (x ++ sufOrLater))
    (hb : Stops b) (hb43 : b.head? ≠ some 43)
    (h1 : (normCore x true).isSome = true) (h2 : (normCore (x ++ sufOrLater) false).isSome = true) :
    toks (x ++ 43 :: b) = toks (x ++ sufOrLater ++ b) := by
  obtain ⟨⟨t1, k1⟩, e1⟩ := Option.isSome_iff_exists.mp h1
  obtain ⟨⟨t2, k2⟩, e2⟩ := Option.isSome_iff_exists.mp h2
  obtain ⟨rfl, rfl⟩ := normCore_plus_orLater x t1 t2 k1 k2 e1 e2
  rw [toks_word x (43 :: b) t1 k1 hx hc (stops_cons (by decide)) (by simpa using e1),
    toks_word_noPlus (x ++ sufOrLater) b _ (by rw [allId_append, hx]; decide) hc' hb hb43 e2]
  cases k1 with
  | true => simp
  | false =>
    -- the `+` that the cascade leaves behind is scanned as the operator
    simp only [Bool.false_eq_true, ↓reduceIte]
    rw [toks_cons_plus]
    cases toks b <;> simp

end Spdx
