/-
Lemmas/ParseString — the tree of a text is a function of its tokens (`tree_eq_toks`), so validity and the tree are read off
the tokens and the grammar (`parse_iff_D`); and texts made of texts: surrounding spaces and parentheses, a text behind a
space or a parenthesis, a keyword between two texts, `(E) AND (F)` / `(E) OR (F)` (C07, C08, C10).
-/
import SpdxVerif.Lemmas.ScanAppend
import SpdxVerif.Lemmas.Grammar
namespace Spdx

def tree (s : Bytes) : Option Node := (parse s).toOption

theorem tree_eq_some {s : Bytes} {n : Node} : tree s = some n ↔ parse s = .ok n := by
  unfold tree; cases parse s <;> simp [Except.toOption]

theorem tree_eq_none {s : Bytes} : tree s = none ↔ ∃ err, parse s = .error err := by
  unfold tree; cases parse s <;> simp [Except.toOption]

theorem valid_eq_tree (s : Bytes) : valid s = (tree s).isSome := by
  unfold valid tree; cases parse s <;> rfl

theorem tree_eq_toks (s : Bytes) : tree s = (toks s).bind parseTokens := by
  cases s with
  | nil => rfl
  | cons c cs =>
    unfold tree parse toks
    cases scan (c :: cs) with
    | error e => rfl
    | ok ts => cases h : parseTokens ts <;> simp [Except.toOption, h]

theorem tree_eq_of_toks {s s' : Bytes} (h : toks s = toks s') : tree s = tree s' := by
  rw [tree_eq_toks, tree_eq_toks, h]

theorem parse_iff_D {s : Bytes} {n : Node} : parse s = .ok n ↔ ∃ ts, toks s = some ts ∧ D .expr ts n := by
  simp only [← tree_eq_some, tree_eq_toks, Option.bind_eq_some_iff, parseTokens_iff]

theorem valid_iff_D {s : Bytes} : valid s = true ↔ ∃ ts n, toks s = some ts ∧ D .expr ts n := by
  simp only [valid_eq_tree, Option.isSome_iff_exists, tree_eq_some, parse_iff_D]
  exact exists_comm

theorem step_op1 {c : Nat} {o : Op} (h : ([c], o) ∈ opTable) (s : Bytes) (off : Nat) : step (c :: s) off = .tok [.op o] s := by
  simp [opTable] at h
  rcases h with ⟨rfl, rfl⟩ | ⟨rfl, rfl⟩ | ⟨rfl, rfl⟩ | ⟨rfl, rfl⟩ <;> rfl

theorem step_plus (s : Bytes) (off : Nat) : step (43 :: s) off = .tok [.op .plus] s := step_op1 (by decide) s off

theorem toks_of_step {s r : Bytes} {tk : List Tok} (h : ∀ off, step s off = .tok tk r) : toks s = (toks r).map (tk ++ ·) := by
  rw [toks_unfold s 0, h]

theorem toks_cons_lparen (s : Bytes) : toks (40 :: s) = (toks s).map (.op .lparen :: ·) :=
  toks_of_step (step_op1 (by decide) s)

theorem toks_cons_rparen (s : Bytes) : toks (41 :: s) = (toks s).map (.op .rparen :: ·) :=
  toks_of_step (step_op1 (by decide) s)

theorem toks_cons_plus (s : Bytes) : toks (43 :: s) = (toks s).map (.op .plus :: ·) := toks_of_step (step_plus s)

theorem toks_plus_nil : toks [43] = some [.op .plus] := by rw [toks_cons_plus, toks_nil]; rfl

theorem toks_cons_colon (s : Bytes) : toks (58 :: s) = (toks s).map (.op .colon :: ·) :=
  toks_of_step (step_op1 (by decide) s)

theorem toks_cons_space (s : Bytes) (h : s.head? ≠ some 43) : toks (32 :: s) = toks s := toks_leading_spaces [32] s rfl h

theorem toks_spaces (sp : Bytes) (h : sp.dropWhile isSp = []) : toks sp = some [] := by
  rw [toks_unfold sp 0, step_eq, if_pos h]

theorem toks_parens (s : Bytes) : toks (40 :: (s ++ [41])) = (toks s).map (fun ts => .op .lparen :: (ts ++ [.op .rparen])) := by
  rw [toks_cons_lparen, toks_append s [41] (by rfl), toks_cons_rparen, toks_nil]
  cases toks s <;> simp

theorem paren_D {s : Bytes} {ts : List Tok} {n : Node} (h : toks s = some ts) (d : D .expr ts n) (lv : Lvl) :
    ∃ ts', toks (40 :: (s ++ [41])) = some ts' ∧ D lv ts' n :=
  ⟨_, (toks_parens s).trans (by rw [h]; rfl), D_lift (.paren d) lv⟩

theorem parse_parens (s : Bytes) (n : Node) (h : parse s = .ok n) : parse (40 :: (s ++ [41])) = .ok n := by
  obtain ⟨ts, h1, h2⟩ := parse_iff_D.mp h
  exact parse_iff_D.mpr (paren_D h1 h2 .expr)

theorem parse_trailing_spaces (s sp : Bytes) (hsp : sp.dropWhile isSp = []) (n : Node) (h : parse s = .ok n) :
    parse (s ++ sp) = .ok n := by
  obtain ⟨ts, h1, h2⟩ := parse_iff_D.mp h
  refine parse_iff_D.mpr ⟨ts, ?_, h2⟩
  rw [toks_append s sp (isBoundary_of_spaces hsp), h1, toks_spaces sp hsp]
  simp

theorem head_ne_plus_of_D {s : Bytes} {ts : List Tok} {lv : Lvl} {n : Node} (h : toks s = some ts) (hd : D lv ts n) :
    s.head? ≠ some 43 := by
  intro hs
  obtain ⟨r, rfl⟩ := List.head?_eq_some_iff.mp hs
  rw [toks_cons_plus] at h
  obtain ⟨tr, -, rfl⟩ := Option.map_eq_some_iff.mp h
  obtain ⟨t, rest, e, ht⟩ := D_head hd
  cases e
  cases ht

theorem parse_leading_spaces (sp s : Bytes) (hsp : sp.dropWhile isSp = []) (n : Node) (h : parse s = .ok n) :
    parse (sp ++ s) = .ok n := by
  obtain ⟨ts, h1, h2⟩ := parse_iff_D.mp h
  exact parse_iff_D.mpr ⟨ts, by rw [toks_leading_spaces sp s hsp (head_ne_plus_of_D h1 h2), h1], h2⟩

def sepToks (sep : Nat) : List Tok := if sep = 40 then [.op .lparen] else if sep = 41 then [.op .rparen] else []

theorem toks_after_sep (a : Bytes) (sep : Nat) (u : Bytes) (hsep : sep = 32 ∨ sep = 40 ∨ sep = 41)
    (hu : u.head? ≠ some 43) :
    toks (a ++ sep :: u) = (toks a).bind (fun A => (toks u).map (fun B => A ++ (sepToks sep ++ B))) := by
  have inner : toks (sep :: u) = (toks u).map (sepToks sep ++ ·) := by
    rcases hsep with rfl | rfl | rfl
    · simpa [sepToks] using toks_cons_space u hu
    · rw [toks_cons_lparen]; rfl
    · rw [toks_cons_rparen]; rfl
  rw [toks_append a _ (by rcases hsep with rfl | rfl | rfl <;> rfl), inner]
  cases toks a <;> cases toks u <;> rfl

theorem toks_ctx (a : Bytes) (sep : Nat) (u v : Bytes) (hsep : sep = 32 ∨ sep = 40 ∨ sep = 41)
    (hu : u.head? ≠ some 43) (hv : v.head? ≠ some 43) (h : toks u = toks v) :
    toks (a ++ sep :: u) = toks (a ++ sep :: v) := by
  rw [toks_after_sep a sep u hsep hu, toks_after_sep a sep v hsep hv, h]

theorem toks_binop (kw : Bytes) (o : Op) (hkw : toks kw = some [.op o]) (hkb : isBoundary kw = true) (a b : Bytes)
    (hb : b.head? ≠ some 43) :
    toks (a ++ (kw ++ 32 :: b)) = (toks a).bind (fun ta => (toks b).map (fun tb => ta ++ .op o :: tb)) := by
  rw [toks_append a _ (by cases kw <;> exact hkb), toks_append kw _ (by rfl), hkw, toks_cons_space b hb]
  cases toks a <;> cases toks b <;> simp

def kwAnd : Bytes := [32,65,78,68]   -- " AND"
def kwOr : Bytes := [32,79,82]       -- " OR"

theorem toks_kwAnd : toks kwAnd = some [.op .and_] := by decide +kernel
theorem toks_kwOr : toks kwOr = some [.op .or_] := by decide +kernel

def bAndMid : Bytes := [41,32,65,78,68,32,40]  -- ") AND ("
def bOrMid : Bytes := [41,32,79,82,32,40]      -- ") OR ("

/-- `"(" E ") AND (" F ")"` -/
def andText (e f : Bytes) : Bytes := 40 :: (e ++ (bAndMid ++ (f ++ [41])))
def orText (e f : Bytes) : Bytes := 40 :: (e ++ (bOrMid ++ (f ++ [41])))

theorem parse_parens_binop (kw : Bytes) (o : Op) (mk : Node → Node → Node) (hkw : toks kw = some [.op o])
    (hkb : isBoundary kw = true)
    (hD : ∀ {ta tb na nb}, D .atom ta na → D .atom tb nb → D .expr (ta ++ .op o :: tb) (mk na nb))
    (e f : Bytes) (ne nf : Node) (he : parse e = .ok ne) (hf : parse f = .ok nf) :
    parse ((40 :: (e ++ [41])) ++ (kw ++ 32 :: 40 :: (f ++ [41]))) = .ok (mk ne nf) := by
  obtain ⟨te, h1, de⟩ := parse_iff_D.mp he
  obtain ⟨tf, h3, df⟩ := parse_iff_D.mp hf
  refine parse_iff_D.mpr ⟨_, ?_, hD (.paren de) (.paren df)⟩
  rw [toks_binop kw o hkw hkb _ _ (by simp), toks_parens, toks_parens, h1, h3]
  rfl

theorem parse_andText (e f : Bytes) (ne nf : Node) (he : parse e = .ok ne) (hf : parse f = .ok nf) :
    parse (andText e f) = .ok (.and ne nf) := by
  simpa [andText, bAndMid, kwAnd] using
    parse_parens_binop kwAnd .and_ .and toks_kwAnd rfl (fun a b => .or1 (.andC a (.and1 b))) e f ne nf he hf

theorem parse_orText (e f : Bytes) (ne nf : Node) (he : parse e = .ok ne) (hf : parse f = .ok nf) :
    parse (orText e f) = .ok (.or ne nf) := by
  simpa [orText, bOrMid, kwOr] using
    parse_parens_binop kwOr .or_ .or toks_kwOr rfl (fun a b => .orC (.and1 a) (.or1 (.and1 b))) e f ne nf he hf

end Spdx
