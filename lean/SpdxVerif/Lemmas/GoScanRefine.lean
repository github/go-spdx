/-
Lemmas/GoScanRefine — the Go-shaped scanner (private buffer, integer cursor, buffer rewrite, look-behind) computes exactly
what the suffix-based scanner of the main model computes: `scanG s = .ok (toks s)`.

Every state the scanner reaches is `Z pre rest err`: buffer `pre ++ rest`, cursor after `pre`.  Each reader is
characterised once on such a state; every slice expression is an instance of `sl_mid`.  Between two tokens the byte
before the cursor is not a space (`Good`), which is all the `+` look-behind can see.  One step of the model is one
iteration of the Go loop, except for the `-or-later` rewrite, where the Go code emits the licence token, rebuilds its
buffer with a `+` in place of the suffix and reads that `+` as an operator in the next iteration.
-/
import SpdxVerif.Model.GoScan
import SpdxVerif.Lemmas.GoShaped
import SpdxVerif.Lemmas.ParseString
namespace Spdx.G

theorem sl_mid (pre mid post : Bytes) {lo hi : Int} (hlo : lo = pre.length) (hhi : hi = lo + mid.length) :
    sl (pre ++ mid ++ post) lo hi = .ok mid := by
  subst hlo hhi
  unfold sl
  rw [if_pos (by simp only [List.length_append]; omega)]
  have h1 : (pre.length : Int).toNat = pre.length := by omega
  have h2 : ((pre.length : Int) + mid.length - pre.length).toNat = mid.length := by omega
  rw [h1, h2, List.append_assoc, List.drop_left, List.take_left]

theorem sl_rest (pre rest : Bytes) : sl (pre ++ rest) (pre.length : Int) ((pre ++ rest).length : Int) = .ok rest := by
  simpa using sl_mid pre rest [] (lo := pre.length) (hi := (pre ++ rest).length) rfl (by simp only [List.length_append]; omega)

theorem sl_take (a b : Bytes) {hi : Int} (h : hi = a.length) : sl (a ++ b) 0 hi = .ok a :=
  sl_mid [] a b rfl (by omega)

theorem sl_all (w : Bytes) : sl w 0 (w.length : Int) = .ok w := sl_rest [] w

def Z (pre rest : Bytes) (err : Bool) : ES := ⟨pre ++ rest, pre.length, err⟩

theorem esMore_Z (pre rest : Bytes) (err : Bool) : esMore (Z pre rest err) = !rest.isEmpty := by
  cases rest <;> simp [esMore, Z]

theorem sl_rest_Z (pre rest : Bytes) (err : Bool) :
    sl (Z pre rest err).expr (Z pre rest err).idx (Z pre rest err).expr.length = .ok rest := sl_rest pre rest

theorem readRegex_Z (cls : Nat → Bool) (pre rest : Bytes) (err : Bool) :
    readRegex cls (Z pre rest err) = .ok (rest.takeWhile cls, Z (pre ++ rest.takeWhile cls) (rest.dropWhile cls) err) := by
  unfold readRegex
  simp only [Z, sl_rest, bind_ok]
  have hsplit : rest.takeWhile cls ++ rest.dropWhile cls = rest := List.takeWhile_append_dropWhile
  split
  · have h := sl_take (rest.takeWhile cls) (rest.dropWhile cls) rfl
    rw [hsplit] at h
    rw [h, bind_ok, List.append_assoc, hsplit, List.length_append]
  · rename_i h
    have hnil : rest.takeWhile cls = [] := List.length_eq_zero_iff.mp (by omega)
    simp only [hnil, List.append_nil, Spdx.dropWhile_of_takeWhile_nil hnil]

theorem read_Z (next pre rest : Bytes) (err : Bool) :
    read next (Z pre rest err) =
      .ok (if next.isPrefixOf rest then (next, Z (pre ++ next) (rest.drop next.length) err) else ([], Z pre rest err)) := by
  unfold read
  simp only [Z, sl_rest, bind_ok]
  split
  · rename_i h
    obtain ⟨r, rfl⟩ := List.isPrefixOf_iff_prefix.mp h
    simp [List.length_append]
  · rfl

theorem skipWhitespace_Z (pre rest : Bytes) (err : Bool) :
    skipWhitespace (Z pre rest err) = .ok (Z (pre ++ rest.takeWhile isSp) (rest.dropWhile isSp) err) := by
  simp only [skipWhitespace, readRegex_Z, bind_ok]

theorem readID_Z (pre rest : Bytes) (err : Bool) :
    readID (Z pre rest err) = .ok (if rest.takeWhile isIdChar = [] then ([], Z pre rest true)
      else (rest.takeWhile isIdChar, Z (pre ++ rest.takeWhile isIdChar) (rest.dropWhile isIdChar) err)) := by
  simp only [readID, readRegex_Z, bind_ok, List.length_eq_zero_iff]
  split
  · rename_i h
    simp only [h, List.append_nil, Spdx.dropWhile_of_takeWhile_nil h]
    rfl
  · rfl

theorem readOps_Z (tbl : List (Bytes × Op)) (hne : ∀ p ∈ tbl, p.1 ≠ []) (pre rest : Bytes) (err : Bool) :
    readOps tbl (Z pre rest err) = .ok (match tbl.find? (fun p => p.1.isPrefixOf rest) with
      | some p => (some p, Z (pre ++ p.1) (rest.drop p.1.length) err)
      | none => (none, Z pre rest err)) := by
  induction tbl with
  | nil => rfl
  | cons po tl ih =>
    obtain ⟨p, o⟩ := po
    simp only [readOps, read_Z, bind_ok, List.find?_cons]
    cases hp : p.isPrefixOf rest with
    | true =>
      have : p.length > 0 := List.length_pos_iff.mpr (hne (p, o) (by simp))
      simp only [↓reduceIte, this]
    | false =>
      simp only [Bool.false_eq_true, ↓reduceIte, List.length_nil, Nat.lt_irrefl]
      exact ih (fun q hq => hne q (List.mem_cons_of_mem _ hq))

/-- the look-behind `expression[index-2:index-1]` after a `+` has been read: the last byte before the `+` -/
theorem sl_behind (q : Bytes) (c : Nat) (post : Bytes) (err : Bool) :
    sl (Z (q ++ [c] ++ bPlus) post err).expr (((Z (q ++ [c] ++ bPlus) post err).idx : Int) - 2)
      (((Z (q ++ [c] ++ bPlus) post err).idx : Int) - 1) = .ok [c] := by
  show sl (q ++ [c] ++ bPlus ++ post) _ _ = _
  rw [List.append_assoc]
  exact sl_mid q [c] (bPlus ++ post) (by simp [Z, bPlus]) (by simp [Z, bPlus]; omega)

theorem readOperator_Z (pre rest : Bytes) (err : Bool) :
    readOperator (Z pre rest err) = .ok (match opTable.find? (fun p => p.1.isPrefixOf rest) with
      | none => (none, Z pre rest err)
      | some p => if p.2 = .plus ∧ pre.getLast? = some 32 then (none, Z pre rest true)
                  else (some p.2, Z (pre ++ p.1) (rest.drop p.1.length) err)) := by
  unfold readOperator
  rw [readOps_Z opTable (fun p hp => (opTable_mem hp).1)]
  simp only [bind_ok]
  cases hf : opTable.find? (fun p => p.1.isPrefixOf rest) with
  | none => rfl
  | some po =>
    obtain ⟨p, o⟩ := po
    have hpo := (opTable_mem (List.mem_of_find?_eq_some hf)).2.2
    by_cases ho : o = .plus
    · subst ho
      obtain rfl : p = bPlus := by simpa using hpo
      obtain ⟨r, rfl⟩ : bPlus <+: rest := by simpa using List.find?_some hf
      -- the guard `index > 1` fails exactly when nothing stands before the `+`
      rcases List.eq_nil_or_concat pre with rfl | ⟨q, c, rfl⟩
      · rfl
      · rw [List.concat_eq_append, sl_behind]
        by_cases hc : c = 32
        · subst hc
          simp [Z, bPlus, bind_ok]
        · simp [Z, bPlus, hc, bind_ok]
    · have : (p == bPlus) = false := by rw [hpo]; simpa using ho
      simp only [this, Bool.false_and, Bool.false_eq_true, ↓reduceIte, ho, false_and]

theorem readRef_Z (p : Bytes) (mk : Bytes → Tok) (hp : p ≠ []) (pre rest : Bytes) :
    readRef p mk (Z pre rest false) = .ok (if p.isPrefixOf rest then
        (if (rest.drop p.length).takeWhile isIdChar = [] then (none, Z (pre ++ p) (rest.drop p.length) true)
         else (some (mk ((rest.drop p.length).takeWhile isIdChar)),
               Z (pre ++ p ++ (rest.drop p.length).takeWhile isIdChar) ((rest.drop p.length).dropWhile isIdChar) false))
      else (none, Z pre rest false)) := by
  have : p.length ≠ 0 := fun h => hp (List.length_eq_zero_iff.mp h)
  simp only [readRef, read_Z, bind_ok]
  split
  · simp only [readID_Z, bind_ok]
    split <;> rfl
  · rfl

/-- the guarded slice `s[0:len(s)-k]` after `HasSuffix(s, suf)`, `k = len(suf)`: Go's spelling of `stripSuffix?` -/
theorem sl_strip {α} (w suf : Bytes) (k : Int) (hk : k = suf.length) (f : Bytes → Out α) (g : Out α) :
    (if suf.isSuffixOf w = true then (sl w 0 ((w.length : Int) - k)).bind f else g) = (stripSuffix? w suf).elim g f := by
  unfold stripSuffix?
  split
  · rename_i h
    obtain ⟨adj, rfl⟩ := List.isSuffixOf_iff_suffix.mp h
    rw [sl_take adj suf (by simp only [List.length_append]; omega), bind_ok, List.length_append, Nat.add_sub_cancel,
      List.take_left' rfl, Option.elim_some]
  · rfl

/-- the peek `expression[index:index+1] == "+"` behind `hasMore()` -/
theorem peek_plus_Z {α} (pre rest : Bytes) (err : Bool) (f : Out α) (g : Out α) :
    (if esMore (Z pre rest err) = true then
        (sl (Z pre rest err).expr (Z pre rest err).idx (((Z pre rest err).idx : Int) + 1)).bind fun c =>
          if (c == bPlus) = true then f else g
      else g) = if rest.head? = some 43 then f else g := by
  rw [esMore_Z]
  cases rest with
  | nil => rfl
  | cons c r =>
    have h2 : sl (Z pre (c :: r) err).expr (Z pre (c :: r) err).idx (((Z pre (c :: r) err).idx : Int) + 1) = .ok [c] := by
      have := sl_mid pre [c] r (lo := pre.length) (hi := (pre.length : Int) + 1) rfl rfl
      rwa [List.append_assoc] at this
    rw [if_pos (show (!(c :: r).isEmpty) = true from rfl), h2, bind_ok]
    by_cases hc : c = 43
    · subst hc; rfl
    · simp [bPlus, hc]

/-- the states between two tokens: no error, and the byte before the cursor is not a space -/
def Good (e : ES) (rest : Bytes) : Prop := ∃ pre, e = Z pre rest false ∧ pre.getLast? ≠ some 32

theorem good_word (pre w rest : Bytes) (hne : w ≠ []) (hns : ∀ c ∈ w, c ≠ 32) : Good (Z (pre ++ w) rest false) rest := by
  refine ⟨_, rfl, ?_⟩
  rw [List.getLast?_append, List.getLast?_eq_some_getLast hne, Option.some_or]
  exact fun h => hns _ (List.getLast_mem hne) (Option.some.inj h)

theorem licenseLookup_nil : licenseLookup [] = none := by decide +kernel

/-- what the Go code emits and leaves (`ts'`, `rest'`) where the model emits `ts` and leaves `rest`: the same, or — the
    `-or-later` rewrite — the licence token alone, with the `+` put back in front of the rest -/
def Emits (ts : List Tok) (rest : Bytes) (ts' : List Tok) (rest' : Bytes) : Prop :=
  ts' = ts ∧ rest' = rest ∨ ∃ t, ts = [t, .op .plus] ∧ ts' = [t] ∧ rest' = 43 :: rest

/-- how the Go code's reading of one token relates to the model's `lexeme` -/
def TokSim : Step → Out (Option (List Tok) × ES) → Prop
  | .done, _ => False
  | .err _, out => ∃ r e', out = .ok (r, e') ∧ e'.err = true
  | .tok ts rest, out => ∃ ts' e' rest', out = .ok (some ts', e') ∧ Good e' rest' ∧ Emits ts rest ts' rest'

/-- … and `normalizeLicense` from state `st` to the model's `normalize` (a word that is no licence leaves `st` as it is) -/
def NormSim (st : ES) : Option (List Tok × Bytes) → Out (Option (List Tok) × ES) → Prop
  | none, out => out = .ok (none, st)
  | some (toks, r), out => TokSim (.tok toks r) out

theorem normalizeLicense_Z (w pre rest : Bytes) (hne : w ≠ []) (hns : ∀ c ∈ w, c ≠ 32) :
    NormSim (Z (pre ++ w) rest false) (normalize w rest) (normalizeLicense w (Z (pre ++ w) rest false)) := by
  have same : ∀ toks, NormSim (Z (pre ++ w) rest false) (some (toks, rest)) (.ok (some toks, Z (pre ++ w) rest false)) :=
    fun toks => ⟨_, _, _, rfl, good_word pre w rest hne hns, .inl ⟨rfl, rfl⟩⟩
  unfold normalizeLicense normalize
  cases h1 : licenseLookup w with
  | some t => exact same _
  | none =>
    have e2 : (stripSuffix? w sufOnly).elim (Out.ok none) (fun adj => Out.ok (licenseLookup adj)) =
        .ok ((stripSuffix? w sufOnly).bind licenseLookup) := by
      cases stripSuffix? w sufOnly <;> rfl
    simp only
    rw [sl_strip w sufOnly 5 rfl, e2, bind_ok]
    cases h2 : (stripSuffix? w sufOnly).bind licenseLookup with
    | some t => exact same _
    | none =>
      simp only [sl_all, bind_ok]
      rw [peek_plus_Z, ← apply_ite Out.ok, bind_ok]
      cases h3 : (if rest.head? = some 43 then licenseLookup (w ++ sufOrLater) else none) with
      | some t =>
        -- the `+` after the word is consumed with it
        obtain ⟨r, rfl⟩ : ∃ r, rest = 43 :: r := by
          split at h3
          · exact List.head?_eq_some_iff.mp ‹_›
          · cases h3
        exact ⟨_, _, _, rfl, ⟨pre ++ w ++ [43], by simp [Z, Nat.add_assoc], by simp⟩, .inl ⟨rfl, rfl⟩⟩
      | none =>
        have dep : NormSim (Z (pre ++ w) rest false)
            (match lookup Tables.deprecated w with
              | some c => some ([Tok.lic c], rest)
              | none => none)
            (.ok ((lookup Tables.deprecated w).map (fun c => [Tok.lic c]), Z (pre ++ w) rest false)) := by
          cases lookup Tables.deprecated w with
          | none => rfl
          | some c => exact same _
        simp only
        rw [sl_strip w sufOrLater 9 rfl]
        cases hs : stripSuffix? w sufOrLater with
        | none => exact dep
        | some adj =>
          simp only [Option.bind_some, Option.elim_some]
          cases h4 : licenseLookup adj with
          | none => exact dep
          | some t =>
            -- the rewrite: `expression[0:index-9] + "+" + TrimPrefix(expression[index:], "+")`, `index -= 9`
            obtain rfl := stripSuffix_some_iff.mp hs
            have hadj : adj ≠ [] := fun h => by rw [h, licenseLookup_nil] at h4; cases h4
            have hhead : sl (Z (pre ++ (adj ++ sufOrLater)) rest false).expr 0
                (((Z (pre ++ (adj ++ sufOrLater)) rest false).idx : Int) - 9) = .ok (pre ++ adj) := by
              show sl (pre ++ (adj ++ sufOrLater) ++ rest) 0 _ = _
              rw [← List.append_assoc, List.append_assoc (pre ++ adj)]
              exact sl_take _ _ (by simp only [Z, List.length_append, show sufOrLater.length = 9 from rfl]; omega)
            have htail : (if bPlus.isPrefixOf rest = true then rest.drop 1 else rest) = (if rest.head? = some 43 then rest.tail else rest) := by
              rcases rest with _ | ⟨c, r⟩
              · rfl
              · by_cases hc : c = 43
                · subst hc; rfl
                · simp [bPlus, hc, Ne.symm hc]
            have hlen : (Z (pre ++ (adj ++ sufOrLater)) rest false).idx - 9 = (pre ++ adj).length := by
              simp only [Z, List.length_append, show sufOrLater.length = 9 from rfl]; omega
            simp only []
            rw [← apply_ite (fun r => some ([t, Tok.op Op.plus], r)), hhead, bind_ok, sl_rest_Z, bind_ok, htail, hlen]
            refine ⟨_, _, _, rfl, ?_, .inr ⟨t, rfl, rfl, rfl⟩⟩
            have := good_word pre adj (43 :: if rest.head? = some 43 then rest.tail else rest) hadj fun c hc =>
              hns c (List.mem_append_left _ hc)
            simpa [Z, bPlus] using this

theorem mem_takeWhile (p : Nat → Bool) (l : Bytes) : ∀ c ∈ l.takeWhile p, p c = true :=
  List.all_eq_true.mp List.all_takeWhile

theorem takeWhile_id_ne_sp (l : Bytes) : ∀ c ∈ l.takeWhile isIdChar, c ≠ 32 := by
  rintro c hc rfl
  exact absurd (mem_takeWhile _ _ _ hc) (by decide)

/-- `parseToken` on one of its two reference readers and what follows it: a reader that sets the error flag or returns a
    token decides, after one that declines `k` goes on -/
def tryG (out : Out (Option Tok × ES)) (k : ES → Out (Option (List Tok) × ES)) : Out (Option (List Tok) × ES) :=
  out.bind fun (x, e) => if e.err then .ok (none, e) else match x with | some t => .ok (some [t], e) | none => k e

theorem ref_step (p : Bytes) (mk : Bytes → Tok) (hp : p ≠ []) (pre rest : Bytes) (off : Nat) (alt : Step)
    (k : ES → Out (Option (List Tok) × ES)) (hk : TokSim alt (k (Z pre rest false))) :
    TokSim (if p.isPrefixOf rest then Spdx.readRef p mk rest off else alt) (tryG (readRef p mk (Z pre rest false)) k) := by
  rw [readRef_Z p mk hp, tryG, bind_ok, Spdx.readRef]
  split
  · split
    · exact ⟨_, _, rfl, rfl⟩
    · rename_i hid
      exact ⟨_, _, _, rfl, good_word (pre ++ p) _ _ hid (takeWhile_id_ne_sp _), .inl ⟨rfl, rfl⟩⟩
  · exact hk

theorem parseToken_eq (e : ES) : parseToken e =
    (readOperator e).bind fun (op, e) =>
      if e.err then .ok (none, e) else
      match op with
      | some o => .ok (some [.op o], e)
      | none =>
        tryG (readRef docRefPrefix .docRef e) fun e => tryG (readRef licRefPrefix .licRef e) fun e =>
          (readLicense e).bind fun (id, e) =>
            if e.err then .ok (none, e) else
            match id with
            | some ts => .ok (some ts, e)
            | none => (at' e.expr e.idx).bind fun _ => .ok (none, { e with err := true }) := rfl

theorem parseToken_Z (pre rest : Bytes) (off : Nat) :
    TokSim (lexeme rest off (decide (pre.getLast? = some 32))) (parseToken (Z pre rest false)) := by
  rw [parseToken_eq, lexeme, readOp, readOperator_Z, bind_ok]
  cases hf : opTable.find? (fun p => p.1.isPrefixOf rest) with
  | some po =>
    obtain ⟨p, o⟩ := po
    simp only [Option.map_some, decide_eq_true_eq]
    split
    · exact ⟨_, _, rfl, rfl⟩
    · obtain ⟨h1, h2, -⟩ := opTable_mem (List.mem_of_find?_eq_some hf)
      exact ⟨_, _, _, rfl, good_word pre p _ h1 h2, .inl ⟨rfl, rfl⟩⟩
  | none =>
    simp only [Option.map_none, show (Z pre rest false).err = false from rfl, Bool.false_eq_true, ↓reduceIte]
    refine ref_step docRefPrefix .docRef (by decide) pre rest _ _ _ ?_
    refine ref_step licRefPrefix .licRef (by decide) pre rest _ _ _ ?_
    unfold readLicense
    simp only [readID_Z, bind_ok]
    split
    · exact ⟨_, _, rfl, rfl⟩
    · rename_i hw
      have hn := normalizeLicense_Z (rest.takeWhile isIdChar) pre (rest.dropWhile isIdChar) hw (takeWhile_id_ne_sp _)
      generalize normalize _ _ = nr at hn ⊢
      rcases nr with _ | ⟨toks, r⟩
      · -- no licence: `readLicense` puts the cursor back and sets the error flag
        rw [show normalizeLicense _ _ = _ from hn]
        exact ⟨_, _, rfl, rfl⟩
      · -- a token: the state it leaves has no error, so `readLicense` and `parseToken` hand it on as it is
        obtain ⟨ts', e', r', hg, ⟨pre', rfl, hl⟩, hem⟩ := hn
        rw [hg]
        exact ⟨ts', _, r', rfl, ⟨pre', rfl, hl⟩, hem⟩

theorem scanLoopG_Z (pre rest : Bytes) (fuel : Nat) (acc : List Tok) :
    scanLoopG (fuel + 1) (Z pre rest false) acc =
      if rest.dropWhile isSp = [] then .ok (some acc) else
      (parseToken (Z (pre ++ rest.takeWhile isSp) (rest.dropWhile isSp) false)).bind fun (t, e) =>
        if e.err then .ok none else
        match t with
        | none => .ok none
        | some ts => scanLoopG fuel e (acc ++ ts) := by
  simp only [scanLoopG, esMore_Z, skipWhitespace_Z, bind_ok, Bool.not_not]
  cases rest with
  | nil => rfl
  | cons c r => cases (c :: r).dropWhile isSp <;> rfl

theorem afterSp_iff (pre rest : Bytes) (h : pre.getLast? ≠ some 32) :
    ((pre ++ rest.takeWhile isSp).getLast? = some 32) ↔ rest.takeWhile isSp ≠ [] := by
  constructor
  · intro h1 h2
    rw [h2, List.append_nil] at h1
    exact h h1
  · intro hne
    rw [List.getLast?_append, List.getLast?_eq_some_getLast hne, Option.some_or]
    have := mem_takeWhile isSp rest _ (List.getLast_mem hne)
    simp only [isSp, beq_iff_eq] at this
    rw [this]

theorem scanLoopG_step {e : ES} {rest : Bytes} (hg : Good e rest) (off : Nat) :
    match step rest off with
    | .done => ∀ fuel acc, scanLoopG (fuel + 1) e acc = .ok (some acc)
    | .err _ => ∀ fuel acc, scanLoopG (fuel + 1) e acc = .ok none
    | .tok ts r => ∃ ts' e' r', Good e' r' ∧ Emits ts r ts' r' ∧
        ∀ fuel acc, scanLoopG (fuel + 1) e acc = scanLoopG fuel e' (acc ++ ts') := by
  obtain ⟨pre, rfl, hl⟩ := hg
  by_cases hd : rest.dropWhile isSp = []
  · rw [step_eq, if_pos hd]
    intro fuel acc
    rw [scanLoopG_Z, if_pos hd]
  · rw [step_eq, if_neg hd]
    have hsim := parseToken_Z (pre ++ rest.takeWhile isSp) (rest.dropWhile isSp) (off + (rest.takeWhile isSp).length)
    -- the look-behind finds a space iff spaces have just been skipped
    rw [decide_eq_decide.mpr (afterSp_iff pre rest hl)] at hsim
    generalize lexeme _ _ _ = st at hsim ⊢
    cases st with
    | done => exact hsim.elim
    | err x =>
      obtain ⟨r, e', hp, he⟩ := hsim
      intro fuel acc
      rw [scanLoopG_Z, if_neg hd, hp, bind_ok]
      simp only [he, ↓reduceIte]
    | tok ts r =>
      obtain ⟨ts', e', r', hp, hg', hem⟩ := hsim
      refine ⟨ts', e', r', hg', hem, fun fuel acc => ?_⟩
      obtain ⟨_, rfl, _⟩ := hg'
      rw [scanLoopG_Z, if_neg hd, hp, bind_ok]
      rfl

/-- fuel: a step of the model consumes a byte and is at most two iterations of the Go loop (two after a rewrite) -/
theorem scanLoopG_eq (rest : Bytes) : ∀ (e : ES) (acc : List Tok) (fuel : Nat), Good e rest → 2 * rest.length + 2 ≤ fuel →
    scanLoopG fuel e acc = .ok ((toks rest).map (acc ++ ·)) := by
  induction rest using scan_induction with
  | _ rest ih =>
    intro e acc fuel hg hf
    obtain ⟨f, rfl⟩ : ∃ f, fuel = f + 1 := ⟨fuel - 1, by omega⟩
    have hi := scanLoopG_step hg 0
    rw [toks_unfold rest 0]
    cases hs : step rest 0 with
    | done => rw [hs] at hi; rw [hi f acc]; simp
    | err x => rw [hs] at hi; rw [hi f acc]; rfl
    | tok ts r =>
      rw [hs] at hi
      have hlen := step_length_lt hs
      have tail : ∀ (l : List Tok), (toks r).map (acc ++ l ++ ·) = ((toks r).map (l ++ ·)).map (acc ++ ·) := by
        intro l; cases toks r <;> simp [List.append_assoc]
      obtain ⟨ts', e', r', hg', ⟨rfl, rfl⟩ | ⟨t, rfl, rfl, rfl⟩, hloop⟩ := hi
      · rw [hloop f acc, ih 0 _ _ hs e' (acc ++ ts') f hg' (by omega), tail]
      · -- the rewritten buffer: the `+` left in it is read by the next iteration
        obtain ⟨f', rfl⟩ : ∃ f', f = f' + 1 := ⟨f - 1, by omega⟩
        have hi2 := scanLoopG_step hg' 0
        rw [step_plus] at hi2
        obtain ⟨_, e'', _, hg'', ⟨rfl, rfl⟩ | ⟨_, hts, -⟩, hloop2⟩ := hi2
        · rw [hloop (f' + 1) acc, hloop2 f' (acc ++ [t]), ih 0 _ _ hs e'' (acc ++ [t] ++ [Tok.op Op.plus]) f' hg'' (by omega),
            List.append_assoc, tail]
          rfl
        · cases hts

theorem scanG_eq (s : Bytes) : scanG s = .ok (toks s) := by
  have := scanLoopG_eq s ⟨s, 0, false⟩ [] (2 * s.length + 2) ⟨[], rfl, by simp⟩ (Nat.le_refl _)
  rw [scanG, this]
  cases toks s <;> rfl

end Spdx.G
