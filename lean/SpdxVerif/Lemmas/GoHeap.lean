/-
Lemmas/GoHeap — the heap-level expansion (Model/GoHeap) refines the functional one (Model/Expand):
separation (every live alternative has its own backing array) is an invariant of the code as repaired, and under it
`append` in place and `append` by copy denote the same value.  Every loop of the expansion is specified as a `Run`
(value, frame, separation in one predicate); runs compose side by side (`Run.append`) and one after another (`Run.rebase`).
Separation is also what makes the in-place sorts of `deepSort` sort each alternative.
-/
import SpdxVerif.Model.GoHeap
import SpdxVerif.Lemmas.Expand
namespace Spdx.H

def OkSl (h : Heap) (s : Sl) : Prop := s.arr < h.length ∧ s.len ≤ (cellsOf h s.arr).length

theorem cellsOf_congr {h h' : Heap} {a : Nat} (e : h'[a]? = h[a]?) : cellsOf h' a = cellsOf h a := by
  unfold cellsOf; rw [e]
theorem capOf_congr {h h' : Heap} {a : Nat} (e : h'[a]? = h[a]?) : capOf h' a = capOf h a := by
  unfold capOf; rw [e]
theorem read_congr {h h' : Heap} {s : Sl} (e : h'[s.arr]? = h[s.arr]?) : read h' s = read h s := by
  unfold read; rw [cellsOf_congr e]
theorem OkSl_congr {h h' : Heap} {s : Sl} (e : h'[s.arr]? = h[s.arr]?) (ok : OkSl h s) : OkSl h' s := by
  unfold OkSl at *
  rw [cellsOf_congr e]
  exact ⟨(List.getElem?_eq_some_iff.1 (e.trans (List.getElem?_eq_getElem ok.1))).1, ok.2⟩

theorem read_of_get {h : Heap} {s : Sl} {xs ys : List Node} {cap : Nat} (e : h[s.arr]? = some ⟨xs ++ ys, cap⟩)
    (hn : xs.length = s.len) : read h s = xs ∧ OkSl h s := by
  unfold OkSl read cellsOf
  rw [e, List.take_left' hn, List.length_append, hn]
  exact ⟨rfl, (List.getElem?_eq_some_iff.1 e).1, Nat.le_add_right ..⟩

theorem read_length {h : Heap} {s : Sl} (ok : OkSl h s) : (read h s).length = s.len := by
  rw [read, List.length_take, Nat.min_eq_left ok.2]

theorem alloc_length (h : Heap) (xs : List Node) (cap : Nat) : (alloc h xs cap).2.length = h.length + 1 :=
  List.length_append

abbrev arrs (ls : List Sl) : List Nat := ls.map (·.arr)

variable {W W' W₁ W₂ : List Nat} {h h' h'' : Heap} {ss ts : List Sl} {p q : List Sl × Heap} {v w : List (List Node)}

/-- the frame: `h'` extends `h`, and only arrays in `W` may have been written -/
structure Ext (W : List Nat) (h h' : Heap) : Prop where
  le : h.length ≤ h'.length
  same : ∀ i, i < h.length → i ∉ W → h'[i]? = h[i]?

theorem Ext.trans (a : Ext W h h') (b : Ext W' h' h'')
    (hW : ∀ i ∈ W', i ∈ W ∨ h.length ≤ i) : Ext W h h'' where
  le := Nat.le_trans a.le b.le
  same i hi hn := by
    rw [b.same i (Nat.lt_of_lt_of_le hi a.le) fun m => (hW i m).elim hn (Nat.not_le.2 hi), a.same i hi hn]

theorem Ext.lt (e : Ext W h h') (hs : ∀ i ∈ arrs ss, i < h.length) : ∀ i ∈ arrs ss, i < h'.length :=
  fun i m => Nat.lt_of_lt_of_le (hs i m) e.le

theorem Ext.read_eq (e : Ext W h h') {s : Sl} (hs : s.arr < h.length) (hn : s.arr ∉ W) :
    read h' s = read h s := read_congr (e.same _ hs hn)

theorem Ext.map_read_eq (e : Ext W h h')
    (hs : ∀ i ∈ arrs ss, i < h.length) (hn : ∀ i ∈ arrs ss, i ∉ W) : ss.map (read h') = ss.map (read h) :=
  List.map_congr_left fun _ m => e.read_eq (hs _ (List.mem_map_of_mem m)) (hn _ (List.mem_map_of_mem m))

structure Sep (h : Heap) (ss : List Sl) : Prop where
  ok : ∀ s ∈ ss, OkSl h s
  nodup : (arrs ss).Nodup

theorem Sep.lt (a : Sep h ss) : ∀ i ∈ arrs ss, i < h.length :=
  List.forall_mem_map.2 fun s m => (a.ok s m).1

theorem Sep.ext (a : Sep h ss) (e : Ext W h h') (hn : ∀ i ∈ arrs ss, i ∉ W) : Sep h' ss :=
  ⟨fun s m => OkSl_congr (e.same _ (a.ok s m).1 (hn _ (List.mem_map_of_mem m))) (a.ok s m), a.nodup⟩

theorem Sep.append_iff : Sep h (ss ++ ts) ↔ Sep h ss ∧ Sep h ts ∧ ∀ i ∈ arrs ss, i ∉ arrs ts := by
  constructor
  · intro ⟨ok, nd⟩
    rw [arrs, List.map_append, List.nodup_append] at nd
    exact ⟨⟨fun s m => ok s (List.mem_append_left _ m), nd.1⟩, ⟨fun s m => ok s (List.mem_append_right _ m), nd.2.1⟩,
      fun i mi mj => nd.2.2 i mi i mj rfl⟩
  · intro ⟨a, b, d⟩
    refine ⟨fun s m => (List.mem_append.1 m).elim (a.ok s) (b.ok s), ?_⟩
    rw [arrs, List.map_append, List.nodup_append]
    exact ⟨a.nodup, b.nodup, fun i mi j mj e => d i mi (e ▸ mj)⟩

/-- `p` is what a piece of the expansion returns when started in `h`.  `W` is empty for everything but `mergeTerms`,
    whose `append(l, r...)` may write into the arrays of its left argument. -/
structure Run (W : List Nat) (h : Heap) (p : List Sl × Heap) (v : List (List Node)) : Prop
    extends Ext W h p.2, Sep p.2 p.1 where
  val : p.1.map (read p.2) = v
  loc : ∀ i ∈ arrs p.1, i ∈ W ∨ h.length ≤ i

theorem Run.length_eq (a : Run W h p v) : p.1.length = v.length := by rw [← a.val, List.length_map]

theorem Run.id (a : Sep h ss) : Run (arrs ss) h (ss, h) (ss.map (read h)) :=
  { a with le := Nat.le_refl _, same := fun _ _ _ => rfl, val := rfl, loc := fun _ m => Or.inl m }

theorem Run.nil : Run [] h ([], h) [] := Run.id (ss := []) ⟨nofun, List.nodup_nil⟩

theorem Run.apart (a : Run W h p v) (hs : ∀ i ∈ arrs ts, i < h.length) (hd : ∀ i ∈ arrs ts, i ∉ W) :
    ∀ i ∈ arrs p.1, i ∉ arrs ts :=
  fun i mi mj => (a.loc i mi).elim (hd i mj) (Nat.not_le.2 (hs i mj))

theorem Run.append (a : Run W₁ h p v) (b : Run W₂ p.2 q w) (hd : ∀ i ∈ arrs p.1, i ∉ W₂) :
    Run (W₁ ++ W₂) h (p.1 ++ q.1, q.2) (v ++ w) where
  le := Nat.le_trans a.le b.le
  same i hi hn := by
    rw [List.mem_append, not_or] at hn
    rw [b.same i (Nat.lt_of_lt_of_le hi a.le) hn.2, a.same i hi hn.1]
  toSep := Sep.append_iff.2 ⟨a.toSep.ext b.toExt hd, b.toSep, fun i mi mj => b.apart a.toSep.lt hd i mj mi⟩
  val := by
    show List.map (read q.2) (p.1 ++ q.1) = v ++ w
    rw [List.map_append, b.val, b.toExt.map_read_eq a.toSep.lt hd, a.val]
  loc i m := by
    rw [arrs, List.map_append, List.mem_append] at m
    rcases m with m | m
    · exact (a.loc i m).imp_left (List.mem_append_left _)
    · exact (b.loc i m).imp (List.mem_append_right _) (Nat.le_trans a.le)

theorem Run.rebase (e : Ext W₁ h h') (b : Run W₂ h' q w) (hW : ∀ i ∈ W₂, i ∈ W₁ ∨ h.length ≤ i) : Run W₁ h q w :=
  { e.trans b.toExt hW, b.toSep with
    val := b.val
    loc := fun i m => (b.loc i m).elim (hW i) fun le => Or.inr (Nat.le_trans e.le le) }

theorem Run.single {s : Sl} {x : List Node} (e : Ext W h h') (ok : read h' s = x ∧ OkSl h' s)
    (loc : s.arr ∈ W ∨ h.length ≤ s.arr) : Run W h ([s], h') [x] :=
  { e with ok := List.forall_mem_singleton.2 ok.2, nodup := List.pairwise_singleton .., val := congrArg (· :: []) ok.1,
           loc := List.forall_mem_singleton.2 loc }

theorem alloc_run (h : Heap) (xs : List Node) (cap : Nat) : Run [] h ([(alloc h xs cap).1], (alloc h xs cap).2) [xs] :=
  Run.single ⟨alloc_length h xs cap ▸ Nat.le_succ _, fun _ hi _ => List.getElem?_append_left hi⟩
    (read_of_get (ys := []) (cap := cap) (by simp [alloc]) rfl) (Or.inr (Nat.le_refl _))

theorem appendG_spec (grow : Nat → Nat → Nat) (h : Heap) (l : Sl) (rc : List Node) (ok : OkSl h l) :
    read (appendG grow h l rc).2 (appendG grow h l rc).1 = read h l ++ rc ∧
    h.length ≤ (appendG grow h l rc).2.length ∧
    (∀ i, i < h.length → i ≠ l.arr → (appendG grow h l rc).2[i]? = h[i]?) ∧
    OkSl (appendG grow h l rc).2 (appendG grow h l rc).1 ∧
    (((appendG grow h l rc).1.arr = l.arr ∧ (appendG grow h l rc).2.length = h.length) ∨
     ((appendG grow h l rc).1.arr = h.length ∧ (appendG grow h l rc).2.length = h.length + 1 ∧
      (appendG grow h l rc).2[l.arr]? = h[l.arr]?)) := by
  unfold appendG
  split
  · -- in place: behind `read h l ++ rc` the array keeps what it held
    have hn : (read h l ++ rc).length = l.len + rc.length := by rw [List.length_append, read_length ok]
    have w {ys cap} := read_of_get (h := h.set l.arr ⟨_ ++ ys, cap⟩) (s := ⟨l.arr, l.len + rc.length⟩)
      (List.getElem?_set_self ok.1) hn
    exact ⟨w.1, Nat.le_of_eq List.length_set.symm, fun i _ hne => List.getElem?_set_ne (Ne.symm hne), w.2,
      Or.inl ⟨rfl, List.length_set⟩⟩
  · have s := alloc_run h (read h l ++ rc) (grow (capOf h l.arr) (l.len + rc.length))
    exact ⟨(List.cons.inj s.val).1, s.le, fun i hi _ => s.same i hi List.not_mem_nil, s.ok _ (List.mem_singleton_self _),
      Or.inr ⟨rfl, alloc_length .., s.same _ ok.1 List.not_mem_nil⟩⟩

theorem appendG_run (grow : Nat → Nat → Nat) (h : Heap) (l : Sl) (rc : List Node) (ok : OkSl h l) :
    Run [l.arr] h ([(appendG grow h l rc).1], (appendG grow h l rc).2) [read h l ++ rc] :=
  have ⟨val, le, same, okNew, inPlaceOrFresh⟩ := appendG_spec grow h l rc ok
  Run.single ⟨le, fun i hi hn => same i hi fun e => hn (e ▸ List.mem_singleton_self _)⟩ ⟨val, okNew⟩
    (inPlaceOrFresh.elim (fun e => Or.inl (e.1 ▸ List.mem_singleton_self _)) fun e => Or.inr (Nat.le_of_eq e.1.symm))

theorem Run.appendG {s : Sl} {x : List Node} (a : Run W h ([s], h') [x])
    (grow : Nat → Nat → Nat) (rc : List Node) :
    Run W h ([(appendG grow h' s rc).1], (appendG grow h' s rc).2) [x ++ rc] := by
  have b := appendG_run grow h' s rc (a.ok s (List.mem_singleton_self s))
  rw [(List.cons.inj a.val).1] at b
  exact Run.rebase a.toExt b a.loc

theorem mergeInnerH_run (grow : Nat → Nat → Nat) (r : Sl) (ls : List Sl) (h : Heap)
    (sep : Sep h ls) (hr : r.arr < h.length) (hrn : r.arr ∉ arrs ls) :
    Run (arrs ls) h (mergeInnerH grow r ls h) ((ls.map (read h)).map (· ++ read h r)) := by
  induction ls generalizing h with
  | nil => exact Run.nil
  | cons l ls ih =>
    obtain ⟨hl, hrn'⟩ : r.arr ≠ l.arr ∧ r.arr ∉ arrs ls := List.ne_and_not_mem_of_not_mem_cons hrn
    obtain ⟨sl, sls, hd⟩ := (Sep.append_iff (ss := [l])).1 sep
    -- `append(l, r...)` writes into `l`'s array only: the other alternatives and `r` are as they were
    have a := appendG_run grow h l (read h r) (sl.ok l (List.mem_singleton_self l))
    have hd' : ∀ i ∈ arrs ls, i ∉ [l.arr] := fun i mi ml => hd i ml mi
    have b := ih _ (sls.ext a.toExt hd') (Nat.lt_of_lt_of_le hr a.le) hrn'
    rw [a.toExt.map_read_eq sls.lt hd', a.toExt.read_eq hr fun m => hl (List.mem_singleton.1 m)] at b
    exact a.append b (a.apart sls.lt hd')

theorem mergeTermsH_run (grow : Nat → Nat → Nat) (ls rs : List Sl) (h : Heap) (sep : Sep h (ls ++ rs)) :
    Run (arrs ls) h (mergeTermsH grow ls rs h) (mergeTerms (ls.map (read h)) (rs.map (read h))) := by
  induction rs generalizing ls h with
  | nil =>
    rw [List.append_nil] at sep
    exact Run.id sep
  | cons r rs ih =>
    obtain ⟨sl, sr, hd⟩ := Sep.append_iff.1 sep
    obtain ⟨-, srs, -⟩ := (Sep.append_iff (ss := [r])).1 sr
    have hr : ∀ i ∈ arrs (r :: rs), i ∉ arrs ls := fun i mi ml => hd i ml mi
    have a := mergeInnerH_run grow r ls h sl (sr.ok r (List.mem_cons_self ..)).1 (hr _ (List.mem_cons_self ..))
    have hrs : ∀ i ∈ arrs rs, i ∉ arrs ls := fun i mi => hr i (List.mem_cons_of_mem _ mi)
    -- the results of the inner loop sit in arrays of `ls` or in new ones, so not in those of `rs`
    have b := ih _ _ (Sep.append_iff.2 ⟨a.toSep, srs.ext a.toExt hrs, a.apart srs.lt hrs⟩)
    rw [a.val, a.toExt.map_read_eq srs.lt hrs] at b
    exact Run.rebase a.toExt b a.loc

theorem appendInnerH_run (grow : Nat → Nat → Nat) (r : Sl) (ls : List Sl) (h : Heap)
    (hl : ∀ i ∈ arrs ls, i < h.length) (hr : r.arr < h.length) :
    Run [] h (appendInnerH grow r ls h) ((ls.map (read h)).map (· ++ read h r)) := by
  induction ls generalizing h with
  | nil => exact Run.nil
  | cons l ls ih =>
    have hl0 := hl l.arr (List.mem_cons_self ..)
    have hls := fun i m => hl i (List.mem_cons_of_mem _ m)
    simp only [appendInnerH]
    -- tmp := make(..); tmp = append(tmp, l...); tmp = append(tmp, r...): all three write into `tmp`'s new array only
    have z := alloc_run h [] (l.len + r.len)
    generalize alloc h [] (l.len + r.len) = p0 at z ⊢
    rw [z.toExt.read_eq hl0 nofun]
    have a := z.appendG grow (read h l)
    generalize appendG grow p0.2 p0.1 (read h l) = p1 at a ⊢
    rw [a.toExt.read_eq hr nofun]
    have c := a.appendG grow (read h r)
    generalize appendG grow p1.2 p1.1 (read h r) = p2 at c ⊢
    have b := ih p2.2 (c.toExt.lt hls) (Nat.lt_of_lt_of_le hr c.le)
    rw [c.toExt.map_read_eq hls nofun, c.toExt.read_eq hr nofun] at b
    exact c.append b nofun

theorem appendTermsH_run (grow : Nat → Nat → Nat) (ls rs : List Sl) (h : Heap)
    (hl : ∀ i ∈ arrs ls, i < h.length) (hr : ∀ i ∈ arrs rs, i < h.length) :
    Run [] h (appendTermsH grow ls rs h) (appendTerms (ls.map (read h)) (rs.map (read h))) := by
  induction rs generalizing h with
  | nil => exact Run.nil
  | cons r rs ih =>
    have a := appendInnerH_run grow r ls h hl (hr r.arr (List.mem_cons_self ..))
    have hrs := fun i m => hr i (List.mem_cons_of_mem _ m)
    have b := ih _ (a.toExt.lt hl) (a.toExt.lt hrs)
    rw [a.toExt.map_read_eq hl nofun, a.toExt.map_read_eq hrs nofun] at b
    exact a.append b nofun

theorem expandTermH_run (grow : Nat → Nat → Nat) (n : Node) (h : Heap) :
    Run [] h (expandTermH grow n h) (expandTerm n) := by
  induction n generalizing h with
  | lic | ref => exact alloc_run h _ 1
  | or l r ihl ihr => exact (ihl h).append (ihr _) nofun
  | and l r ihl ihr =>
    have a := ihl h
    have b := ihr (expandTermH grow l h).2
    -- once the right operand has run, the results of both are separated and those of the left still denote `expandTerm l`
    have ab := a.append b nofun
    have eL := b.toExt.map_read_eq a.toSep.lt nofun
    rw [a.val] at eL
    simp only [expandTermH, expandTerm]
    rw [a.length_eq, b.length_eq]
    split
    · have c := appendTermsH_run grow (expandTermH grow l h).1 (expandTermH grow r _).1 _
        (b.toExt.lt a.toSep.lt) b.toSep.lt
      rw [eL, b.val] at c
      exact Run.rebase ab.toExt c nofun
    · -- `mergeTerms` writes into the arrays of the left results, all made since `h` (`a.loc`): nothing of `h` is written
      have c := mergeTermsH_run grow (expandTermH grow l h).1 (expandTermH grow r _).1 _ ab.toSep
      rw [eL, b.val] at c
      exact Run.rebase ab.toExt c a.loc

theorem expandTermH_spec (grow : Nat → Nat → Nat) : ∀ (n : Node) (h : Heap),
    (expandTermH grow n h).1.map (read (expandTermH grow n h).2) = expandTerm n ∧
    h.length ≤ (expandTermH grow n h).2.length ∧
    (∀ i, i < h.length → (expandTermH grow n h).2[i]? = h[i]?) ∧
    (∀ s ∈ (expandTermH grow n h).1, OkSl (expandTermH grow n h).2 s ∧ h.length ≤ s.arr) ∧
    (arrs (expandTermH grow n h).1).Nodup := fun n h =>
  have r := expandTermH_run grow n h
  ⟨r.val, r.le, fun i hi => r.same i hi List.not_mem_nil,
    fun s m => ⟨r.ok s m, (r.loc _ (List.mem_map_of_mem m)).resolve_left List.not_mem_nil⟩, r.nodup⟩

theorem sortStep_spec (h : Heap) (s : Sl) (ok : OkSl h s) :
    read (if s.len > 1 then sortOneH h s else h) s = sortLeaves (read h s) ∧
    (if s.len > 1 then sortOneH h s else h).length = h.length ∧
    ∀ i, i ≠ s.arr → (if s.len > 1 then sortOneH h s else h)[i]? = h[i]? := by
  split
  · have hn : (sortLeaves (read h s)).length = s.len := by rw [(sortLeaves_perm _).length_eq, read_length ok]
    exact ⟨(read_of_get (List.getElem?_set_self ok.1) hn).1, List.length_set, fun i hne => List.getElem?_set_ne (Ne.symm hne)⟩
  · -- nothing is written: an alternative of at most one term is sorted already
    have short : ∀ l : List Node, l.length ≤ 1 → l = sortLeaves l
      | [], _ | [_], _ => rfl
    exact ⟨short _ (by rw [read_length ok]; omega), rfl, fun _ _ => rfl⟩

theorem sortAllH_spec : ∀ (ss : List Sl) (h : Heap), (arrs ss).Nodup → (∀ s ∈ ss, OkSl h s) →
    ss.map (read (sortAllH ss h)) = ss.map (fun s => sortLeaves (read h s)) ∧
    (∀ i, i ∉ arrs ss → (sortAllH ss h)[i]? = h[i]?) ∧ (sortAllH ss h).length = h.length
  | [], _, _, _ => ⟨rfl, fun _ _ => rfl, rfl⟩
  | s :: ss, h, nd, ok => by
    obtain ⟨hs, nd⟩ : s.arr ∉ arrs ss ∧ (arrs ss).Nodup := List.nodup_cons.1 nd
    obtain ⟨r1, l1, f1⟩ := sortStep_spec h s (ok s (List.mem_cons_self ..))
    -- the other alternatives lie in other arrays: the step leaves them as they were
    have f1' : ∀ t ∈ ss, _ := fun t m => f1 t.arr fun e => hs (e ▸ List.mem_map_of_mem m)
    obtain ⟨b1, b2, b3⟩ := sortAllH_spec ss _ nd fun t m => OkSl_congr (f1' t m) (ok t (List.mem_cons_of_mem _ m))
    refine ⟨?_, fun i hn => ?_, b3.trans l1⟩
    · show read (sortAllH ss _) s :: ss.map (read (sortAllH ss _)) = _ :: _
      rw [read_congr (b2 _ hs), r1, b1]
      exact congrArg _ (List.map_congr_left fun t m => by rw [read_congr (f1' t m)])
    · obtain ⟨hi, hn⟩ := List.ne_and_not_mem_of_not_mem_cons hn
      exact (b2 i hn).trans (f1 i hi)

end Spdx.H
