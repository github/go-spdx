/-
C10 — expressions denoting the same Boolean function get the same verdict.
-/
import SpdxVerif.Lemmas.Expand
namespace Spdx.C10

/-- **C10.** If two trees denote the same Boolean function of their terms, every allowed list gives them the same
verdict — for any single-term matcher. -/
theorem verdict_of_eval_eq (m : Node → Node → Bool) (n₁ n₂ : Node) (h : ∀ p, eval p n₁ = eval p n₂) (A : List Node) :
    verdictBy m n₁ A = verdictBy m n₂ A := by
  rw [verdictBy_eq_eval, verdictBy_eq_eval, h]

/-- `Satisfies('(E) AND (F)', A) = Satisfies(E, A) and Satisfies(F, A)`, likewise for OR (tree level) -/
theorem verdict_and (m) (e f : Node) (A : List Node) :
    verdictBy m (.and e f) A = (verdictBy m e A && verdictBy m f A) := by
  simp [verdictBy_eq_eval, eval]
theorem verdict_or (m) (e f : Node) (A : List Node) :
    verdictBy m (.or e f) A = (verdictBy m e A || verdictBy m f A) := by
  simp [verdictBy_eq_eval, eval]

variable (m : Node → Node → Bool) (A : List Node) (x y z : Node)

theorem and_comm : verdictBy m (.and x y) A = verdictBy m (.and y x) A :=
  verdict_of_eval_eq m _ _ (fun _ => by exact Bool.and_comm ..) A
theorem or_comm : verdictBy m (.or x y) A = verdictBy m (.or y x) A :=
  verdict_of_eval_eq m _ _ (fun _ => by exact Bool.or_comm ..) A
theorem and_assoc : verdictBy m (.and (.and x y) z) A = verdictBy m (.and x (.and y z)) A :=
  verdict_of_eval_eq m _ _ (fun _ => by exact Bool.and_assoc ..) A
theorem or_assoc : verdictBy m (.or (.or x y) z) A = verdictBy m (.or x (.or y z)) A :=
  verdict_of_eval_eq m _ _ (fun _ => by exact Bool.or_assoc ..) A
theorem and_idem : verdictBy m (.and x x) A = verdictBy m x A :=
  verdict_of_eval_eq m _ _ (fun _ => by exact Bool.and_self _) A
theorem or_idem : verdictBy m (.or x x) A = verdictBy m x A :=
  verdict_of_eval_eq m _ _ (fun _ => by exact Bool.or_self _) A
theorem absorb_and : verdictBy m (.and x (.or x y)) A = verdictBy m x A :=
  verdict_of_eval_eq m _ _ (fun _ => by exact (by decide : ∀ a b : Bool, (a && (a || b)) = a) _ _) A
theorem absorb_or : verdictBy m (.or x (.and x y)) A = verdictBy m x A :=
  verdict_of_eval_eq m _ _ (fun _ => by exact (by decide : ∀ a b : Bool, (a || a && b) = a) _ _) A
theorem distrib_and_or : verdictBy m (.and x (.or y z)) A = verdictBy m (.or (.and x y) (.and x z)) A :=
  verdict_of_eval_eq m _ _ (fun _ => by exact Bool.and_or_distrib_left ..) A
theorem distrib_or_and : verdictBy m (.or x (.and y z)) A = verdictBy m (.and (.or x y) (.or x z)) A :=
  verdict_of_eval_eq m _ _ (fun _ => by exact Bool.or_and_distrib_left ..) A

/-- rewriting inside a context: congruence of the verdict under AND / OR -/
theorem congr_and (x x' y y' : Node) (hx : ∀ p, eval p x = eval p x') (hy : ∀ p, eval p y = eval p y') :
    verdictBy m (.and x y) A = verdictBy m (.and x' y') A :=
  verdict_of_eval_eq m _ _ (fun p => by rw [eval, eval, hx, hy]) A
theorem congr_or (x x' y y' : Node) (hx : ∀ p, eval p x = eval p x') (hy : ∀ p, eval p y = eval p y') :
    verdictBy m (.or x y) A = verdictBy m (.or x' y') A :=
  verdict_of_eval_eq m _ _ (fun p => by rw [eval, eval, hx, hy]) A

end Spdx.C10
