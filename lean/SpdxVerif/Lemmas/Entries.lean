/-
Lemmas/Entries — the allowed list at the string level: the term an entry denotes, and what `stringsToNodes` returns.
-/
import SpdxVerif.Spec.Eval
namespace Spdx

/-- the single term an allowed entry denotes (none: invalid or compound) -/
def leafOf (x : Bytes) : Option Node :=
  match parse x with
  | .ok n => if n.isLeaf then some n else none
  | .error _ => none

theorem leafOf_eq_some {x : Bytes} {t : Node} : leafOf x = some t ↔ parse x = .ok t ∧ t.isLeaf = true := by
  unfold leafOf
  cases parse x with
  | error _ => simp
  | ok n =>
    simp only [Option.ite_none_right_eq_some, Option.some.injEq, Except.ok.injEq]
    exact ⟨fun ⟨hl, h⟩ => ⟨h, h ▸ hl⟩, fun ⟨h, hl⟩ => ⟨h ▸ hl, h⟩⟩

theorem toNodes_cons_ok {x : Bytes} {xs : List Bytes} {A : List Node} :
    toNodes (x :: xs) = .ok A ↔ ∃ n B, leafOf x = some n ∧ toNodes xs = .ok B ∧ n :: B = A := by
  simp only [toNodes, leafOf]
  cases parse x with
  | error e => simp
  | ok n => cases hl : n.isLeaf <;> cases toNodes xs <;> simp [Except.map, hl]

theorem toNodes_append (pre L : List Bytes) :
    toNodes (pre ++ L) = (toNodes pre).bind fun P => (toNodes L).map (P ++ ·) := by
  induction pre with
  | nil => rw [List.nil_append]; cases toNodes L <;> rfl
  | cons y pre ih =>
    rw [List.cons_append, toNodes, toNodes, ih]
    cases parse y with
    | error _ => rfl
    | ok m =>
      dsimp only
      cases m.isLeaf with
      | false => rfl
      | true => cases toNodes pre <;> cases toNodes L <;> rfl

theorem toNodes_eq (L : List Bytes) (A : List Node) : toNodes L = .ok A ↔ L.map leafOf = A.map some := by
  induction L generalizing A with
  | nil => cases A <;> simp [toNodes]
  | cons x xs ih =>
    rw [toNodes_cons_ok]
    cases A with
    | nil => simp
    | cons a as => simp [ih]

theorem toNodes_mem {L : List Bytes} {A : List Node} (h : toNodes L = .ok A) (t : Node) :
    t ∈ A ↔ ∃ x ∈ L, leafOf x = some t := by
  have : t ∈ A ↔ some t ∈ A.map some := by simp
  rw [this, ← (toNodes_eq L A).mp h, List.mem_map]

theorem eq_map_some_iff {α} {l : List (Option α)} {A : List α} :
    l = A.map some ↔ l.all Option.isSome = true ∧ l.filterMap id = A := by
  constructor
  · rintro rfl; simp [List.filterMap_map]
  · rintro ⟨h, rfl⟩
    induction l with
    | nil => rfl
    | cons o l ih =>
      cases o with
      | none => simp at h
      | some a => simp only [List.all_cons, Option.isSome_some, Bool.true_and] at h; simp [← ih h]

theorem toNodes_ok_iff_all (L : List Bytes) : (∃ A, toNodes L = .ok A) ↔ ∀ x ∈ L, (leafOf x).isSome = true := by
  simp [toNodes_eq, eq_map_some_iff]

end Spdx
