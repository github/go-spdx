/-
C04 — one notion of validity: errors are returned exactly for invalid input.
-/
import SpdxVerif.Lemmas.Entries
namespace Spdx.C04

/-- a compound (AND/OR) expression -/
def compound (s : Bytes) : Bool := match parse s with | .ok n => !n.isLeaf | .error _ => false

theorem valid_iff (s : Bytes) : valid s = true ↔ ∃ n, parse s = .ok n := by
  unfold valid; cases parse s <;> simp

/-- `ValidateLicenses` returns exactly the invalid elements, in order and with multiplicity,
    and `true` iff there are none -/
theorem validate_spec (L : List Bytes) :
    validate L = ((L.filter (fun s => !valid s)).isEmpty, L.filter (fun s => !valid s)) := rfl

theorem validate_true_iff (L : List Bytes) : (validate L).1 = true ↔ ∀ s ∈ L, valid s = true := by
  simp [validate, List.filter_eq_nil_iff]

theorem validate_mem (L : List Bytes) (s : Bytes) : s ∈ (validate L).2 ↔ s ∈ L ∧ valid s = false := by
  simp [validate]

theorem validate_sublist (L : List Bytes) : (validate L).2.Sublist L := by
  simp [validate]

/-- `ExtractLicenses` errs iff its argument is invalid -/
theorem extract_err_iff (s : Bytes) : extract s = none ↔ valid s = false := by
  unfold extract valid; cases parse s <;> simp

theorem leafOf_isSome (x : Bytes) : (leafOf x).isSome = true ↔ valid x = true ∧ compound x = false := by
  unfold leafOf valid compound
  cases parse x with
  | error _ => simp
  | ok n => cases n.isLeaf <;> simp

/-- `stringsToNodes` succeeds iff every entry is a valid single term -/
theorem toNodes_ok_iff (L : List Bytes) :
    (∃ A, toNodes L = .ok A) ↔ ∀ x ∈ L, valid x = true ∧ compound x = false := by
  simp only [toNodes_ok_iff_all, leafOf_isSome]

theorem satisfies_error_iff_toNodes (e : Bytes) (L : List Bytes) :
    (∃ err, satisfies e L = .error err) ↔ valid e = false ∨ L = [] ∨ ¬ ∃ A, toNodes L = .ok A := by
  unfold satisfies valid
  cases parse e with
  | error _ => simp
  | ok n =>
    cases L with
    | nil => simp
    | cons x xs => cases toNodes (x :: xs) <;> simp

/-- `Satisfies` errs iff the expression is invalid, the allowed list is empty, or some allowed entry is invalid
    or is a compound expression -/
theorem satisfies_err_iff (e : Bytes) (L : List Bytes) :
    (∃ err, satisfies e L = .error err) ↔
      valid e = false ∨ L = [] ∨ ∃ x ∈ L, valid x = false ∨ compound x = true := by
  rw [satisfies_error_iff_toNodes, toNodes_ok_iff]
  simp only [Classical.not_forall, Classical.not_and_iff_not_or_not, Bool.not_eq_true, Bool.not_eq_false, exists_prop]

/-- valid input never produces an error -/
theorem satisfies_ok_of_valid (e : Bytes) (L : List Bytes)
    (he : valid e = true) (hL : L ≠ []) (hall : ∀ x ∈ L, valid x = true ∧ compound x = false) :
    ∃ b, satisfies e L = .ok b := by
  cases h : satisfies e L with
  | ok b => exact ⟨b, rfl⟩
  | error err =>
    rcases (satisfies_error_iff_toNodes e L).mp ⟨err, h⟩ with h1 | h1 | h1
    · rw [he] at h1; cases h1
    · exact absurd h1 hL
    · exact absurd ((toNodes_ok_iff L).mpr hall) h1

/-- the model has exactly the outcomes "result" and "error": whenever an error is returned there is no result
    (the Go functions return `false` / `nil` beside every error; that part is the correspondence's) -/
theorem extract_total (s : Bytes) : (∃ l, extract s = some l) ∨ extract s = none := by
  cases extract s <;> simp

end Spdx.C04
