/-
Lemmas/Version — the version oracle's comparison is a lexicographic order (`Ordering.then` of `compare` on `Nat`), hence a
linear order: in a list sorted by it two entries compare as their indices do (`verCmp_of_sorted`).
-/
import SpdxVerif.Spec.Version
namespace Spdx

theorem numsCmp_cons (x y : Nat) (a b : List Nat) : numsCmp (x :: a) (y :: b) = (compare x y).then (numsCmp a b) := by
  simp only [numsCmp, Nat.blt_eq, Nat.compare_eq_ite_lt]
  split
  · rfl
  · split <;> rfl

theorem verCmp_then (a b : Ver) : verCmp a b = (numsCmp a.nums b.nums).then (compare a.letter b.letter) := by
  simp only [verCmp, Nat.blt_eq, Nat.compare_eq_ite_lt]
  cases numsCmp a.nums b.nums <;> rfl

theorem numsCmp_swap : ∀ (a b : List Nat), numsCmp b a = (numsCmp a b).swap
  | [], [] | [], _ :: _ | _ :: _, [] => rfl
  | x :: a, y :: b => by rw [numsCmp_cons, numsCmp_cons, Ordering.swap_then, Nat.compare_swap, numsCmp_swap a b]

theorem numsCmp_eq : ∀ {a b : List Nat}, numsCmp a b = .eq → a = b
  | [], [], _ => rfl
  | x :: a, y :: b, h => by
    rw [numsCmp_cons, Ordering.then_eq_eq, Nat.compare_eq_eq] at h
    rw [h.1, numsCmp_eq h.2]

theorem numsCmp_lt_trans : ∀ {a b c : List Nat}, numsCmp a b = .lt → numsCmp b c = .lt → numsCmp a c = .lt
  | [], _ :: _, _ :: _, _, _ => rfl
  | x :: a, y :: b, z :: c, h1, h2 => by
    rw [numsCmp_cons, Ordering.then_eq_lt, Nat.compare_eq_lt, Nat.compare_eq_eq] at h1 h2 ⊢
    rcases h1 with h1 | ⟨rfl, h1⟩ <;> rcases h2 with h2 | ⟨rfl, h2⟩
    · exact Or.inl (Nat.lt_trans h1 h2)
    · exact Or.inl h1
    · exact Or.inl h2
    · exact Or.inr ⟨rfl, numsCmp_lt_trans h1 h2⟩

theorem verCmp_swap (a b : Ver) : verCmp b a = (verCmp a b).swap := by
  rw [verCmp_then, verCmp_then, Ordering.swap_then, Nat.compare_swap, numsCmp_swap a.nums b.nums]

theorem verCmp_refl (a : Ver) : verCmp a a = .eq := Ordering.eq_eq_of_eq_swap (verCmp_swap a a)

theorem verCmp_eq {a b : Ver} (h : verCmp a b = .eq) : a = b := by
  rw [verCmp_then, Ordering.then_eq_eq, Nat.compare_eq_eq] at h
  obtain ⟨an, al⟩ := a
  obtain ⟨bn, bl⟩ := b
  cases numsCmp_eq h.1; cases h.2; rfl

theorem verCmp_lt_trans {a b c : Ver} (h1 : verCmp a b = .lt) (h2 : verCmp b c = .lt) : verCmp a c = .lt := by
  rw [verCmp_then, Ordering.then_eq_lt, Nat.compare_eq_lt] at h1 h2 ⊢
  rcases h1 with h1 | ⟨e1, h1⟩ <;> rcases h2 with h2 | ⟨e2, h2⟩
  · exact Or.inl (numsCmp_lt_trans h1 h2)
  · exact Or.inl (numsCmp_eq e2 ▸ h1)
  · exact Or.inl (numsCmp_eq e1 ▸ h2)
  · exact Or.inr ⟨numsCmp_eq e1 ▸ e2, Nat.lt_trans h1 h2⟩

theorem verCmp_of_sorted {vs : List Ver} (h : vs.Pairwise (fun v w => verCmp v w = .lt)) {j l : Nat} {v w : Ver}
    (hv : vs[j]? = some v) (hw : vs[l]? = some w) : verCmp v w = compare j l := by
  obtain ⟨hj, rfl⟩ := List.getElem?_eq_some_iff.mp hv
  obtain ⟨hl, rfl⟩ := List.getElem?_eq_some_iff.mp hw
  rw [List.pairwise_iff_getElem] at h
  rcases Nat.lt_trichotomy j l with hjl | rfl | hjl
  · rw [h j l hj hl hjl, Nat.compare_eq_lt.mpr hjl]
  · rw [verCmp_refl, Nat.compare_eq_eq.mpr rfl]
  · rw [verCmp_swap, h l j hl hj hjl, Nat.compare_eq_gt.mpr hjl]; rfl

theorem verLt_iff {a b : Ver} : verLt a b = true ↔ verCmp a b = .lt := by
  unfold verLt; cases verCmp a b <;> simp

theorem verEq_iff {a b : Ver} : verEq a b = true ↔ verCmp a b = .eq := by
  unfold verEq; cases verCmp a b <;> simp

theorem verTests_of_cmp {v w : Ver} {j l : Nat} (h : verCmp v w = compare j l) :
    verEq v w = (j == l) ∧ verLe v w = decide (j ≤ l) ∧ verLe w v = decide (l ≤ j) := by
  simp only [verEq, verLe, verLt, verCmp_swap v w, h]
  rcases Nat.lt_trichotomy j l with hjl | hjl | hjl
  · simp [Nat.compare_eq_lt.mpr hjl, Nat.le_of_lt hjl, Nat.ne_of_lt hjl, Nat.not_le_of_lt hjl]
  · simp [hjl]
  · simp [Nat.compare_eq_gt.mpr hjl, Nat.le_of_lt hjl, Nat.ne_of_gt hjl, Nat.not_le_of_lt hjl]

end Spdx
